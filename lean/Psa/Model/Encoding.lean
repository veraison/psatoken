/-
  psatoken/encoding: the embedding-aware codec, CBOR side (encoding/{cbor,embedded}.go; JSON side:
  Psa/Model/EncodingJson.lean),
  transliterated with Go's partial operations explicit (`idx`, `sliceFrom`, …):
  the hand-rolled CBOR map-header reader/writer, the ordered field map, and
  serialise / populate over struct *shapes*.  Library decoders enter as the
  total functions of `Psa.Cbor` (assumed not to panic).
-/
import Psa.Cbor.Basic
import Psa.Model.Codec
import Psa.Model.Evidence
namespace Psa.Model.Enc
open Psa

/-! ### processAdditionalInfo (encoding/cbor.go) — hand model; tied to the regenerated
    translation by `Psa.Tie.Encoding` -/

def processAdditionalInfo (ai : Nat) (data : Bytes) : Outcome (Nat × Bytes) :=
  if ai < 24 then .ok (ai, data)
  else if ai < 28 then
    if ai = 24 then
      (if data.length < 1 then .err eOther
       else (idx "pai:1" data 0).bind fun b => (sliceFrom "pai:1s" data 1).bind fun r => .ok (b.toNat, r))
    else if ai = 25 then
      (if data.length < 2 then .err eOther
       else (sliceTo "pai:2" data 2).bind fun h => (sliceFrom "pai:2s" data 2).bind fun r => .ok (beNat h, r))
    else if ai = 26 then
      (if data.length < 4 then .err eOther
       else (sliceTo "pai:4" data 4).bind fun h => (sliceFrom "pai:4s" data 4).bind fun r => .ok (beNat h, r))
    else .err eOther
  else if ai = 31 then .ok (0, data)
  else .err eOther

/-! ### the ordered field map (structFieldsCBOR) -/

structure OMap where
  /-- `Keys`: insertion order -/
  keys : List Int
  /-- `Fields`: key ↦ raw encoded value -/
  fields : List (Int × Bytes)
  deriving Repr, DecidableEq

def OMap.empty : OMap := { keys := [], fields := [] }

def OMap.has (m : OMap) (k : Int) : Bool := m.fields.any (·.1 == k)

def OMap.add (m : OMap) (k : Int) (v : Bytes) : Outcome OMap :=
  if m.has k then .err eOther else .ok { keys := m.keys ++ [k], fields := m.fields ++ [(k, v)] }

def OMap.get (m : OMap) (k : Int) : Option Bytes := (m.fields.find? (·.1 == k)).map (·.2)

/-- `Delete` (after fix 9cf080f): drop the field, filter the key list in place -/
def OMap.delete (m : OMap) (k : Int) : OMap :=
  { keys := m.keys.filter (· != k), fields := m.fields.filter (·.1 != k) }

/-- the `if/else` ladder of `ToCBOR` writing the map header for `n` entries — hand model; tied to
    the regenerated translation by `Psa.Tie.Encoding` -/
def mapHeader (n : Nat) : Bytes :=
  if n = 0 then [0xa0]
  else if n < 24 then [UInt8.ofNat (0xa0 + n)]
  else if n ≤ 255 then [0xb8, UInt8.ofNat n]
  else if n ≤ 65535 then 0xb9 :: beBytes 2 n
  else 0xba :: beBytes 4 n

def encEntries (m : OMap) : List Int → Bytes
  | [] => []
  | k :: ks => (cInt k).enc ++ (m.get k).getD [] ++ encEntries m ks

/-- `ToCBOR` -/
def OMap.toCBOR (m : OMap) : Bytes := mapHeader m.keys.length ++ encEntries m m.keys

/-- `dm.UnmarshalFirst(rest, &raw)`: the bytes of the first well-formed item, and the rest -/
def rawFirst (bs : Bytes) : Option (Bytes × Cbor × Bytes) :=
  match Cbor.decodeFirst {} bs with
  | some (t, rest) => some (bs.take (bs.length - rest.length), t, rest)
  | none => none

/-- marker (inside `Outcome.err`) for inputs outside the modelled domain: items carrying CBOR tags,
    whose built-in-tag validation by the library is not modelled -/
def eOod : ErrMask := 4096

/-- a key or value carrying a CBOR tag (outside the modelled domain) -/
def kvTagged (kt : Cbor) (r1 : Bytes) : Bool :=
  Cbor.hasTag kt || (match rawFirst r1 with | some (_, vt, _) => Cbor.hasTag vt | none => false)

/-- `unmarshalKeyValue`: an integer key (Go `int`), any value kept raw, then `Add` -/
def unmarshalKeyValue (rest : Bytes) (m : OMap) : Outcome (Bytes × OMap) :=
  match rawFirst rest with
  | none => .err eOther
  | some (_, kt, r1) =>
    if kvTagged kt r1 then .err eOod else
    match decIntRange (-9223372036854775808) 9223372036854775807 kt with
    | .ok (some k) =>
      (match rawFirst r1 with
       | none => .err eOther
       | some (raw, _, r2) => (m.add k raw).bind fun m' => .ok (r2, m'))
    | .ok none => -- null / undefined into an `int`: a no-op leaving 0
      (match rawFirst r1 with
       | none => .err eOther
       | some (raw, _, r2) => (m.add 0 raw).bind fun m' => .ok (r2, m'))
    | _ => .err eOther

/-- the definite-length loop `for i < mapLen` -/
def readEntries : Nat → Bytes → OMap → Outcome (Bytes × OMap)
  | 0, rest, m => .ok (rest, m)
  | n + 1, rest, m => (unmarshalKeyValue rest m).bind fun (r, m') => readEntries n r m'

/-- the indefinite-length loop `for len(rest) > 0 { if rest[0] == 0xff … }`; `fuel` ≥ length -/
def readUntilBreak : Nat → Bytes → OMap → Outcome OMap
  | 0, _, _ => .err eOther
  | fuel + 1, rest, m =>
    match rest with
    | [] => .err eOther                 -- "unexpected EOF": no break found
    | b :: _ =>
      if b = 0xff then .ok m
      else (unmarshalKeyValue rest m).bind fun (r, m') => readUntilBreak fuel r m'

/-- `(*structFieldsCBOR).FromCBOR` (after fixes c48f47f, e161666, a6352a0) -/
def fromCBOR (data : Bytes) : Outcome OMap :=
  if data.length = 0 then .err eOther
  else
    (idx "FromCBOR:header" data 0).bind fun header =>
    (sliceFrom "FromCBOR:rest" data 1).bind fun rest =>
    let ai := header.toNat % 32
    let mt := header.toNat / 32
    let afterTag : Outcome (Nat × Nat × Bytes) :=
      if mt = 6 then
        (processAdditionalInfo ai rest).bind fun (_, rest') =>
        if rest'.length = 0 then .err eOther
        else
          (idx "FromCBOR:tagged" rest' 0).bind fun h2 =>
          (sliceFrom "FromCBOR:tagged-rest" rest' 1).bind fun r2 => .ok (h2.toNat / 32, h2.toNat % 32, r2)
      else .ok (mt, ai, rest)
    afterTag.bind fun (mt, ai, rest) =>
    if mt ≠ 5 then .err eOther
    else
      (processAdditionalInfo ai rest).bind fun (mapLen, rest) =>
      if ai ≠ 31 then (readEntries mapLen rest OMap.empty).bind fun (_, m) => .ok m
      else readUntilBreak (rest.length + 1) rest OMap.empty

/-! ### struct shapes, values, serialise / populate (CBOR) -/

inductive FTy | int | text | bytes
  deriving DecidableEq, Repr

inductive FVal
  | int (i : Int)
  | text (s : Bytes)
  | bytes (b : Bytes)
  deriving DecidableEq, Repr

structure FieldSpec where
  key : Int
  omitempty : Bool
  ty : FTy
  deriving DecidableEq, Repr

/-- a struct type following the claims convention: own tagged pointer fields, then embedded structs -/
inductive Shape
  | mk (fields : List FieldSpec) (embeds : List Shape)

/-- a value of a shape: one optional value per own field (nil pointer = none), then the embedded values -/
inductive SVal
  | mk (vals : List (Option FVal)) (embeds : List SVal)

def encFVal : Option FVal → Cbor
  | none => .null
  | some (.int i) => cInt i
  | some (.text s) => .tstr s
  | some (.bytes b) => .bstr b

def addFields : List FieldSpec → List (Option FVal) → OMap → Outcome OMap
  | f :: fs, v :: vs, m =>
    if f.omitempty && v.isNone then addFields fs vs m
    else (m.add f.key (encFVal v).enc).bind fun m' => addFields fs vs m'
  | _, _, m => .ok m

mutual
/-- `doSerializeStructToCBOR`: own fields in order, then each embedded struct -/
def serializeInto : Shape → SVal → OMap → Outcome OMap
  | .mk fields embeds, .mk vals evals, m => (addFields fields vals m).bind fun m' => serializeEmbeds embeds evals m'
def serializeEmbeds : List Shape → List SVal → OMap → Outcome OMap
  | s :: ss, v :: vs, m => (serializeInto s v m).bind fun m' => serializeEmbeds ss vs m'
  | _, _, m => .ok m
end

/-- `SerializeStructToCBOR` -/
def serialize (sh : Shape) (v : SVal) : Outcome Bytes := (serializeInto sh v OMap.empty).map OMap.toCBOR

def decFVal (ty : FTy) (raw : Bytes) : Dec (Option FVal) :=
  match Cbor.decodeAll {} raw with
  | none => .err
  | some t =>
    match ty with
    | .int => (decIntRange (-9223372036854775808) 9223372036854775807 t).map fun o => o.map .int
    | .text => (decText t).map fun o => o.map .text
    | .bytes => (decBytesVal t).map fun o => o.map .bytes

def popFields : List FieldSpec → OMap → Dec (List (Option FVal) × OMap)
  | [], m => .ok ([], m)
  | f :: fs, m =>
    match m.get f.key with
    | none => if f.omitempty then (popFields fs m).map fun (vs, m') => (none :: vs, m') else .err
    | some raw =>
      (decFVal f.ty raw).bind fun v => (popFields fs (m.delete f.key)).map fun (vs, m') => (v :: vs, m')

mutual
/-- `doPopulateStructFromCBOR` -/
def populateFrom : Shape → OMap → Dec (SVal × OMap)
  | .mk fields embeds, m =>
    (popFields fields m).bind fun (vals, m') => (populateEmbeds embeds m').map fun (evs, m'') => (.mk vals evs, m'')
def populateEmbeds : List Shape → OMap → Dec (List SVal × OMap)
  | [], m => .ok ([], m)
  | s :: ss, m => (populateFrom s m).bind fun (v, m') => (populateEmbeds ss m').map fun (vs, m'') => (v :: vs, m'')
end

/-- `PopulateStructFromCBOR` -/
def populate (sh : Shape) (data : Bytes) : Outcome (Dec SVal) :=
  (fromCBOR data).map fun m => (populateFrom sh m).map (·.1)

end Psa.Model.Enc
