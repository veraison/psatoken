/-
  Setters of claims_p1.go / claims_p2.go / swcomponent.go and the component
  container's Replace (swcomponents.go), code-shaped: validate, then assign.
-/
import Psa.Model.Claims
namespace Psa.Model
open Psa

inductive SetOp
  | clientId (v : Int)
  | lifecycle (v : Nat)
  | implId (b : Bytes)
  | bootSeed (b : Bytes)
  | certRef (s : Bytes)
  /-- `none` = a nil slice; only the library's own component type, no nil elements -/
  | sw (l : Option (List SwComp))
  | nonce (b : Bytes)
  | instId (b : Bytes)
  | vsi (s : Bytes)
  deriving DecidableEq, Repr

/-- `validateAndConvert`: validates every element, converts all before anything is swapped in -/
def validateAndConvert : List SwComp → Outcome (List (Option SwComp))
  | [] => .ok []
  | sc :: rest =>
    match sc.validate with
    | .ok _ => (validateAndConvert rest).bind fun l => .ok (some sc :: l)
    | .err m => .err m
    | .panic s => .panic s

/-- `(*SwComponents).Replace`: what the container holds afterwards -/
def replaceVals (vals : List SwComp) : Outcome (Option (List (Option SwComp))) :=
  (validateAndConvert vals).bind fun l => .ok (some l)

/-- `(*SwComponents).Add` on a container holding `old`: everything is validated and converted first, then appended -/
def addVals (old : List (Option SwComp)) (vals : List SwComp) : Outcome (List (Option SwComp)) :=
  (validateAndConvert vals).bind fun l => .ok (old ++ l)

/-- the container's own mutators -/
inductive ContOp
  | add (l : List SwComp)
  | replace (l : List SwComp)
  deriving DecidableEq, Repr

def contStep (cur : List (Option SwComp)) : ContOp → List (Option SwComp) × Outcome Unit
  | .add l =>
    match addVals cur l with
    | .ok n => (n, .ok ())
    | .err m => (cur, .err m)
    | .panic s => (cur, .panic s)
  | .replace l =>
    match validateAndConvert l with
    | .ok n => (n, .ok ())
    | .err m => (cur, .err m)
    | .panic s => (cur, .panic s)

def applySet (c : Claims) (op : SetOp) : Claims × Outcome Unit :=
  match op with
  | .clientId v => ({ c with clientId := some v }, .ok ())
  | .lifecycle v =>
    match validateSecurityLifeCycle v with
    | .ok _ => ({ c with lifecycle := some v }, .ok ())
    | e => (c, e)
  | .implId b =>
    match validateImplID b with
    | .ok _ => ({ c with implId := some b }, .ok ())
    | e => (c, e)
  | .bootSeed b =>
    match c.prof with
    | .p1 => if b.length != 32 then (c, .err eWrongSyntax) else ({ c with bootSeed := some b }, .ok ())
    | .p2 => if b.length < 8 || b.length > 32 then (c, .err eWrongSyntax) else ({ c with bootSeed := some b }, .ok ())
  | .certRef s =>
    match c.prof with
    | .p1 => if !isEan13 s && !isEan13p5 s then (c, .err eWrongSyntax) else ({ c with certRef := some s }, .ok ())
    | .p2 => if !isEan13p5 s then (c, .err eWrongSyntax) else ({ c with certRef := some s }, .ok ())
  | .sw l =>
    match c.prof with
    | .p1 =>
      match l with
      | none => ({ c with noSw := some 1, sw := .nilIface }, .ok ())
      | some vals =>
        -- the new list is built aside and attached only on success (fix for D11): a refused list leaves
        -- the claims-set, the nil container included, as it was
        match replaceVals vals with
        | .ok nv => ({ c with sw := .cont nv, noSw := none }, .ok ())
        | .err m => (c, .err m)
        | .panic s => (c, .panic s)
    | .p2 =>
      match l with
      | none => (c, .err eWrongSyntax)   -- the claim is mandatory: a nil list is not a value (fix for D9)
      | some vals =>
        let c1 := match c.sw with | .nilIface => { c with sw := .cont none } | _ => c
        match replaceVals vals with
        | .ok nv => ({ c1 with sw := .cont nv }, .ok ())
        | .err m => (c1, .err m)
        | .panic s => (c1, .panic s)
  | .nonce b =>
    match validatePSAHashType b with
    | .ok _ => ({ c with nonce := some [b] }, .ok ())
    | e => (c, e)
  | .instId b =>
    match validateInstID b with
    | .ok _ => ({ c with instId := some b }, .ok ())
    | e => (c, e)
  | .vsi s =>
    match validateVSI s with
    | .ok _ => ({ c with vsi := some s }, .ok ())
    | e => (c, e)

def run (c : Claims) (ops : List SetOp) : Claims := ops.foldl (fun c o => (applySet c o).1) c

/-! component setters (swcomponent.go) -/
inductive CompOp
  | mtype (s : Bytes) | mval (b : Bytes) | version (s : Bytes) | signer (b : Bytes) | mdesc (s : Bytes)
  deriving DecidableEq, Repr

def applyCompSet (sc : SwComp) (op : CompOp) : SwComp × Outcome Unit :=
  match op with
  | .mtype s => ({ sc with mtype := some s }, .ok ())
  | .mval b =>
    match validatePSAHashType b with
    | .ok _ => ({ sc with mval := some b }, .ok ())
    | e => (sc, e)
  | .version s => ({ sc with version := some s }, .ok ())
  | .signer b =>
    match validatePSAHashType b with
    | .ok _ => ({ sc with signer := some b }, .ok ())
    | e => (sc, e)
  | .mdesc s => ({ sc with mdesc := some s }, .ok ())

end Psa.Model
