/-
  JSON side of the claims layer, at tree level (DESIGN §4 C12): what
  `encoding/json` does for the struct tags and field types of the claims types,
  with the text layer (escaping, number syntax, whitespace) in Psa/Model/JsonText.lean —
  for the ops of this file the harness tokenises Go's JSON text into these trees.  Modelled, not verified.
-/
import Psa.Model.Codec
namespace Psa.Model
open Psa

inductive Json
  | null
  | bool (b : Bool)
  /-- a number literal that is an integer (`-?[0-9]+` without fraction/exponent) -/
  | int (i : Int)
  /-- any other number literal (raw text) -/
  | numOther (raw : Bytes)
  /-- a string, as its decoded UTF-8 bytes -/
  | str (s : Bytes)
  | arr (xs : List Json)
  | obj (ms : List (Bytes × Json))
  deriving Repr, Inhabited

/-! ### base64 (standard alphabet, padded) -/

def b64char (n : Nat) : UInt8 :=
  if n < 26 then UInt8.ofNat (65 + n)
  else if n < 52 then UInt8.ofNat (97 + (n - 26))
  else if n < 62 then UInt8.ofNat (48 + (n - 52))
  else if n = 62 then 43 else 47

def b64val (c : UInt8) : Option Nat :=
  let n := c.toNat
  if 65 ≤ n ∧ n ≤ 90 then some (n - 65)
  else if 97 ≤ n ∧ n ≤ 122 then some (n - 97 + 26)
  else if 48 ≤ n ∧ n ≤ 57 then some (n - 48 + 52)
  else if n = 43 then some 62
  else if n = 47 then some 63
  else none

def b64enc : Bytes → Bytes
  | [] => []
  | [a] =>
    let x := a.toNat
    [b64char (x / 4), b64char (x % 4 * 16), 61, 61]
  | [a, b] =>
    let x := a.toNat; let y := b.toNat
    [b64char (x / 4), b64char (x % 4 * 16 + y / 16), b64char (y % 16 * 4), 61]
  | a :: b :: c :: rest =>
    let x := a.toNat; let y := b.toNat; let z := c.toNat
    b64char (x / 4) :: b64char (x % 4 * 16 + y / 16) :: b64char (y % 16 * 4 + z / 64) :: b64char (z % 64) :: b64enc rest

/-- strict decoder (Go's `base64.StdEncoding`): length a multiple of 4, `=` padding only in the
    last quantum; trailing bits of a padded quantum are not checked -/
def b64dec : Bytes → Option Bytes
  | [] => some []
  | a :: b :: c :: d :: rest =>
    match b64val a, b64val b with
    | some x, some y =>
      if c = 61 then (if d = 61 ∧ rest = [] then some [UInt8.ofNat (x * 4 + y / 16)] else none)
      else
        match b64val c with
        | none => none
        | some z =>
          if d = 61 then
            (if rest = [] then some [UInt8.ofNat (x * 4 + y / 16), UInt8.ofNat (y % 16 * 16 + z / 4)] else none)
          else
            match b64val d with
            | none => none
            | some w =>
              (b64dec rest).map fun r =>
                UInt8.ofNat (x * 4 + y / 16) :: UInt8.ofNat (y % 16 * 16 + z / 4) :: UInt8.ofNat (z % 4 * 64 + w) :: r
    | _, _ => none
  | _ => none

/-! ### member names (struct tags; tied to the source by T2) -/

def jn (s : String) : Bytes := strBytes s

def jP1Profile := jn "psa-profile"
def jP2Profile := jn "eat-profile"
def jClientId := jn "psa-client-id"
def jLifecycle := jn "psa-security-lifecycle"
def jImplId := jn "psa-implementation-id"
def jBootSeed := jn "psa-boot-seed"
def jP1CertRef := jn "psa-hwver"
def jP2CertRef := jn "psa-certification-reference"
def jSw := jn "psa-software-components"
def jNoSw := jn "psa-no-software-measurements"
def jNonce := jn "psa-nonce"
def jInstId := jn "psa-instance-id"
def jVsi := jn "psa-verification-service-indicator"
def jMType := jn "measurement-type"
def jMVal := jn "measurement-value"
def jVersion := jn "version"
def jSigner := jn "signer-id"
def jMDesc := jn "measurement-description"

/-! ### encoding -/

def jBytes (b : Bytes) : Json := .str (b64enc b)
def jOptBytes : Option Bytes → Json
  | none => .null
  | some b => jBytes b
def jOmit (name : Bytes) : Option Json → List (Bytes × Json)
  | none => []
  | some v => [(name, v)]

def SwComp.toJson (sc : SwComp) : Json :=
  .obj (jOmit jMType (sc.mtype.map .str) ++ [(jMVal, jOptBytes sc.mval)] ++ jOmit jVersion (sc.version.map .str) ++
        [(jSigner, jOptBytes sc.signer)] ++ jOmit jMDesc (sc.mdesc.map .str))

def swToJson : SwField → Json
  | .nilIface => .null
  | .cont none => .null
  | .cont (some l) => .arr (l.map fun | none => .null | some sc => sc.toJson)

def jOptInt : Option Int → Json
  | none => .null
  | some i => .int i
def jOptNat : Option Nat → Json
  | none => .null
  | some i => .int i

def p1ToJson (c : Claims) : Outcome Json :=
  .ok (.obj (
    jOmit jP1Profile (match c.profile with | some (.str s) => some (.str s) | _ => none) ++
    [(jClientId, jOptInt c.clientId), (jLifecycle, jOptNat c.lifecycle),
     (jImplId, jOptBytes c.implId), (jBootSeed, jOptBytes c.bootSeed)] ++
    jOmit jP1CertRef (c.certRef.map .str) ++
    jOmit jSw (if c.sw.nilOrEmpty then none else some (swToJson c.sw)) ++
    jOmit jNoSw (c.noSw.map fun n => .int n) ++
    [(jNonce, match c.nonce with | some [b] => jBytes b | _ => .null),
     (jInstId, jOptBytes c.instId)] ++
    jOmit jVsi (c.vsi.map .str)))

def p2ToJson (c : Claims) : Outcome Json :=
  match c.profile with
  | some .invalid => .err eOther
  | prof =>
    let nonce : Outcome Json := match c.nonce with
      | none => .ok .null
      | some l => if !nonceOK l then .err eOther
                  else match l with
                    | [b] => .ok (jBytes b)
                    | _ => .ok (.arr (l.map jBytes))
    nonce.bind fun nv =>
    .ok (.obj (
      [(jP2Profile, match prof with | some (.str s) => .str s | _ => .null),
       (jClientId, jOptInt c.clientId), (jLifecycle, jOptNat c.lifecycle), (jImplId, jOptBytes c.implId)] ++
      jOmit jBootSeed (c.bootSeed.map jBytes) ++
      jOmit jP2CertRef (c.certRef.map .str) ++
      [(jSw, swToJson c.sw), (jNonce, nv), (jInstId, jOptBytes c.instId)] ++
      jOmit jVsi (c.vsi.map .str)))

/-- `EncodeClaimsToJSON` (tree level) -/
def encodeJSON (c : Claims) : Outcome Json :=
  match c.prof with
  | .p1 => p1ToJson c
  | .p2 => p2ToJson c

/-! ### decoding (the modelled domain: members of the expected JSON type, no duplicate
    or differently-cased member names; everything else is `ood`) -/

def jDecText : Json → Dec (Option Bytes)
  | .str s => .ok (some s)
  | .null => .ok none
  | _ => .err

def jDecInt (lo hi : Int) : Json → Dec (Option Int)
  | .int i => if lo ≤ i ∧ i ≤ hi then .ok (some i) else .err
  | .null => .ok none
  | _ => .err

def jDecBytes : Json → Dec (Option Bytes)
  | .str s => (match b64dec s with | some b => .ok (some b) | none => if s.contains 13 || s.contains 10 then .ood else .err)
  | .null => .ok none
  | .arr _ => .ood      -- Go decodes an array of numbers element-wise into []byte
  | _ => .err

def lookupMember (ms : List (Bytes × Json)) (name : Bytes) : Option Json := (ms.find? (·.1 == name)).map (·.2)

def lowerByte (b : UInt8) : UInt8 := if 65 ≤ b.toNat ∧ b.toNat ≤ 90 then UInt8.ofNat (b.toNat + 32) else b
def lowerBytes (s : Bytes) : Bytes := s.map lowerByte

/-- member names are pairwise different even ignoring ASCII case, and all ASCII -/
def noDupB : List Bytes → Bool
  | [] => true
  | x :: xs => !xs.contains x && noDupB xs

def namesClean (ms : List (Bytes × Json)) : Bool :=
  noDupB (ms.map fun m => lowerBytes m.1) && ms.all fun m => m.1.all fun b => b.toNat < 128

/-- a member named `name` exactly; a member differing only in case makes the document `ood` -/
def member (ms : List (Bytes × Json)) (name : Bytes) : Dec (Option Json) :=
  match lookupMember ms name with
  | some v => .ok (some v)
  | none => if ms.any (fun m => lowerBytes m.1 == lowerBytes name) then .ood else .ok none

def jDecComp : Json → Dec (Option SwComp)
  | .null => .ok none
  | .obj ms =>
    if !namesClean ms then .ood else
    (member ms jMType).bind fun a => (member ms jMVal).bind fun b => (member ms jVersion).bind fun c =>
    (member ms jSigner).bind fun d => (member ms jMDesc).bind fun e =>
    let f {α} (o : Option Json) (g : Json → Dec (Option α)) : Dec (Option α) := match o with | none => .ok none | some j => g j
    -- all members are decoded even after an error; among the verdicts ood dominates, then err
    match f a jDecText, f b jDecBytes, f c jDecText, f d jDecBytes, f e jDecText with
    | .ok a', .ok b', .ok c', .ok d', .ok e' => .ok (some { mtype := a', mval := b', version := c', signer := d', mdesc := e' })
    | r1, r2, r3, r4, r5 =>
      if r1 == .ood || r2 == .ood || r3 == .ood || r4 == .ood || r5 == .ood then .ood else .err
  | _ => .err

def jDecComps : Json → Dec (Option (List (Option SwComp)))
  | .null => .ok none
  | .arr xs => (decAll jDecComp xs).map some
  | _ => .err

/-- into the interface field: JSON null makes the interface itself nil -/
def jDecSw (cur : SwField) (j : Json) : Dec SwField :=
  match j with
  | .null => .ok .nilIface
  | _ => match cur with
    | .nilIface => .err
    | .cont _ => (jDecComps j).map .cont

def jDecNonceElem : Json → Dec Bytes
  | .str s => (match b64dec s with | some b => .ok b | none => if s.contains 13 || s.contains 10 then .ood else .err)
  | _ => .err

def jDecEatNonce : Json → Dec (Option (List Bytes))
  | .null => .ok none
  | .arr xs => (decAll jDecNonceElem xs).map some
  | j => (jDecNonceElem j).map fun b => some [b]

def jDecEatProfile (urlNorm : Bytes → Dec Bytes) : Json → Dec (Option ProfVal)
  | .null => .ok none
  | .str s => (match urlNorm s with
      | .ok u => .ok (some (.str u))
      | .err => .ood      -- falls back to OID parsing: not modelled
      | .ood => .ood)
  | _ => .err

def combine {α} (c : Claims) (rs : List (Dec (Claims → Claims))) (_ : α) : Dec Claims :=
  if rs.any (· matches .ood) then .ood
  else if rs.any (· matches .err) then .err
  else .ok (rs.foldl (fun acc r => match r with | .ok f => f acc | _ => acc) c)

def fld {α} (ms : List (Bytes × Json)) (name : Bytes) (dec : Json → Dec α) (set : α → Claims → Claims) :
    Dec (Claims → Claims) :=
  match member ms name with
  | .ood => .ood
  | .err => .err
  | .ok none => .ok id
  | .ok (some j) => (dec j).map set

/-- `(*P1Claims).UnmarshalJSON` / `(*P2Claims).UnmarshalJSON` on the object `c0` -/
def unmarshalJSONInto (urlNorm : Bytes → Dec Bytes) (c0 : Claims) (j : Json) : Dec Claims :=
  let c := { c0 with profile := none }
  match j with
  | .null => .ok c
  | .obj ms =>
    if !namesClean ms then .ood else
    match c.prof with
    | .p1 => combine c [
        fld ms jP1Profile jDecText (fun x c => { c with profile := x.map .str }),
        fld ms jClientId (jDecInt (-2147483648) 2147483647) (fun x c => { c with clientId := x }),
        fld ms jLifecycle (jDecInt 0 65535) (fun x c => { c with lifecycle := x.map Int.toNat }),
        fld ms jImplId jDecBytes (fun x c => { c with implId := x }),
        fld ms jBootSeed jDecBytes (fun x c => { c with bootSeed := x }),
        fld ms jP1CertRef jDecText (fun x c => { c with certRef := x }),
        fld ms jSw (jDecSw c.sw) (fun x c => { c with sw := x }),
        fld ms jNoSw (jDecInt 0 18446744073709551615) (fun x c => { c with noSw := x.map Int.toNat }),
        fld ms jNonce jDecBytes (fun x c => { c with nonce := x.map fun b => [b] }),
        fld ms jInstId jDecBytes (fun x c => { c with instId := x }),
        fld ms jVsi jDecText (fun x c => { c with vsi := x })] ()
    | .p2 => combine c [
        fld ms jP2Profile (jDecEatProfile urlNorm) (fun x c => { c with profile := x }),
        fld ms jClientId (jDecInt (-2147483648) 2147483647) (fun x c => { c with clientId := x }),
        fld ms jLifecycle (jDecInt 0 65535) (fun x c => { c with lifecycle := x.map Int.toNat }),
        fld ms jImplId jDecBytes (fun x c => { c with implId := x }),
        fld ms jBootSeed jDecBytes (fun x c => { c with bootSeed := x }),
        fld ms jP2CertRef jDecText (fun x c => { c with certRef := x }),
        fld ms jSw (jDecSw c.sw) (fun x c => { c with sw := x }),
        fld ms jNonce jDecEatNonce (fun x c => { c with nonce := x }),
        fld ms jInstId jDecBytes (fun x c => { c with instId := x }),
        fld ms jVsi jDecText (fun x c => { c with vsi := x })] ()
  | _ => .err

/-! ### dispatch (iclaims.go:DecodeClaimsFromJSON) -/

/-- one entry of the profile register as the JSON dispatcher sees it -/
structure RegEntry where
  /-- name it is registered under ("" = the default entry) -/
  key : Bytes
  /-- `entry.Profile.GetName()` -/
  profName : Bytes
  /-- JSON member name of the profile field of its claims type -/
  jsonTag : Bytes
  /-- which claims implementation it creates -/
  entry : Entry
  deriving Repr

def builtinRegistry : List RegEntry :=
  [{ key := [], profName := p1Name, jsonTag := jP1Profile, entry := .p1 },
   { key := p1Name, profName := p1Name, jsonTag := jP1Profile, entry := .p1 },
   { key := p2Name, profName := p2Name, jsonTag := jP2Profile, entry := .p2 }]

inductive Dispatch
  | found (e : RegEntry)
  | none
  | multiple
  deriving Repr

/-- the range over the register: an entry matches when the document has a member named by the
    entry's JSON tag whose value is the string equal to the entry's profile name -/
def entryMatches (ms : List (Bytes × Json)) (e : RegEntry) : Bool :=
  match lookupMember ms e.jsonTag with
  | some (.str s) => s == e.profName
  | _ => false

def dispatchStep (ms : List (Bytes × Json)) (acc : Dispatch) (e : RegEntry) : Dispatch :=
  match acc with
  | .multiple => .multiple
  | _ =>
    if entryMatches ms e then
      match acc with
      | .found f => if f.profName != e.profName then .multiple else .found e
      | _ => .found e
    else acc

def dispatchJSON (reg : List RegEntry) (ms : List (Bytes × Json)) : Dispatch :=
  reg.foldl (dispatchStep ms) .none

/-- some entry's profile member is present with a non-null value -/
def profilePresent (reg : List RegEntry) (ms : List (Bytes × Json)) : Bool :=
  reg.any fun e => match lookupMember ms e.jsonTag with
    | some .null => false
    | some _ => true
    | none => false

/-- `DecodeClaimsFromJSON`: the document is first read as a generic map (so it must be an
    object), the register is searched for a matching profile, then the typed decode runs -/
def decodeClaimsJSON (urlNorm : Bytes → Dec Bytes) (reg : List RegEntry) (j : Json) : Dec Claims :=
  match j with
  | .obj ms =>
    if !namesClean ms then .ood else
    match dispatchJSON reg ms with
    | .found e =>
      (match e.entry with
       | .p1 => unmarshalJSONInto urlNorm (Claims.new .p1) j
       | .p2 => unmarshalJSONInto urlNorm (Claims.new .p2) j
       | .other => .ood)
    | .none =>
      -- no registered profile member present (or only null ones): the default entry
      if profilePresent reg ms then .err
      else (match reg.find? (fun e => e.key == []) with
        | none => .err
        | some e => (match e.entry with
          | .p1 => unmarshalJSONInto urlNorm (Claims.new .p1) j
          | .p2 => unmarshalJSONInto urlNorm (Claims.new .p2) j
          | .other => .ood))
    | .multiple => .err
  | _ => .err

end Psa.Model
