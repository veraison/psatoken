/-
  An interleaving semantics of whole operations: threads take turns (any schedule), every operation sees the
  shared state and the executing thread's own objects, and returns the new shared state, the thread's new
  objects and an output.  Nothing here says that operations leave the shared state alone: that is a hypothesis
  of the theorems (`ReadOnly`), discharged for the library's read-side operations in Psa/Props/C17.lean from
  the regenerated method facts.
-/
import Psa.Basic
namespace Psa.Model.Conc

structure Sys (Sh Lo Op Out : Type) where
  step : Sh → Lo → Op → Sh × Lo × Out

variable {Sh Lo Op Out : Type}

/-- one thread alone -/
def seqRun (sys : Sys Sh Lo Op Out) (sh : Sh) : Lo → List Op → List Out
  | _, [] => []
  | l, op :: ops => let (_, l', o) := sys.step sh l op; o :: seqRun sys sh l' ops

def update {α} (f : Nat → α) (t : Nat) (a : α) : Nat → α := fun u => if u = t then a else f u

/-- any schedule: `σ` names the thread that moves next; a thread with nothing left to do skips its turn -/
def runSched (sys : Sys Sh Lo Op Out) : List Nat → Sh → (Nat → Lo) → (Nat → List Op) → Sh × List (Nat × Out)
  | [], sh, _, _ => (sh, [])
  | t :: σ, sh, L, P =>
    match P t with
    | [] => runSched sys σ sh L P
    | op :: rest =>
      let (sh', l', o) := sys.step sh (L t) op
      let (shf, evs) := runSched sys σ sh' (update L t l') (update P t rest)
      (shf, (t, o) :: evs)

/-- no operation changes the shared state -/
def ReadOnly (sys : Sys Sh Lo Op Out) : Prop := ∀ sh l op, (sys.step sh l op).1 = sh

/-- the outputs thread `t` saw -/
def outputsOf (t : Nat) (evs : List (Nat × Out)) : List Out := (evs.filter (·.1 == t)).map (·.2)

theorem update_same {α} (f : Nat → α) (t : Nat) (a : α) : update f t a t = a := by simp [update]
theorem update_other {α} (f : Nat → α) (t u : Nat) (a : α) (h : u ≠ t) : update f t a u = f u := by simp [update, h]

theorem runSched_skip (sys : Sys Sh Lo Op Out) (t : Nat) (σ : List Nat) (sh : Sh) (L : Nat → Lo) (P : Nat → List Op)
    (hp : P t = []) : runSched sys (t :: σ) sh L P = runSched sys σ sh L P := by
  simp only [runSched, hp]

/-- a turn of thread `t` under `ReadOnly`: its output is recorded, its objects and program advance, `sh` stays -/
theorem runSched_turn (sys : Sys Sh Lo Op Out) (hro : ReadOnly sys) (t : Nat) (σ : List Nat) (sh : Sh) (L : Nat → Lo)
    (P : Nat → List Op) (op : Op) (rest : List Op) (hp : P t = op :: rest) :
    runSched sys (t :: σ) sh L P =
      ((runSched sys σ sh (update L t (sys.step sh (L t) op).2.1) (update P t rest)).1,
       (t, (sys.step sh (L t) op).2.2) :: (runSched sys σ sh (update L t (sys.step sh (L t) op).2.1) (update P t rest)).2) := by
  simp only [runSched, hp, hro sh (L t) op]

/-- **shared state is never changed**, whatever the schedule -/
theorem shared_unchanged (sys : Sys Sh Lo Op Out) (hro : ReadOnly sys) :
    ∀ (σ : List Nat) (sh : Sh) (L : Nat → Lo) (P : Nat → List Op), (runSched sys σ sh L P).1 = sh
  | [], _, _, _ => rfl
  | t :: σ, sh, L, P => by
    cases hp : P t with
    | nil => rw [runSched_skip sys t σ sh L P hp]; exact shared_unchanged sys hro σ sh L P
    | cons op rest => rw [runSched_turn sys hro t σ sh L P op rest hp]; exact shared_unchanged sys hro σ sh _ _

theorem outputsOf_cons (t u : Nat) (o : Out) (evs : List (Nat × Out)) :
    outputsOf t ((u, o) :: evs) = if u = t then o :: outputsOf t evs else outputsOf t evs := by
  unfold outputsOf
  rw [List.filter_cons]
  by_cases h : u = t <;> simp [h]

/-- **projection**: under any schedule, what thread `t` observes is what it observes running alone, sequentially, from
    the same initial state — as far as the schedule lets it get -/
theorem projection (sys : Sys Sh Lo Op Out) (hro : ReadOnly sys) (t : Nat) :
    ∀ (σ : List Nat) (sh : Sh) (L : Nat → Lo) (P : Nat → List Op),
      outputsOf t (runSched sys σ sh L P).2 = seqRun sys sh (L t) ((P t).take (σ.count t))
  | [], _, _, _ => by simp [runSched, outputsOf, seqRun]
  | u :: σ, sh, L, P => by
    cases hp : P u with
    | nil =>
      rw [runSched_skip sys u σ sh L P hp, projection sys hro t σ sh L P]
      by_cases hut : u = t
      · rw [← hut, hp, List.take_nil, List.take_nil]
      · rw [List.count_cons_of_ne hut]
    | cons op rest =>
      rw [runSched_turn sys hro u σ sh L P op rest hp, outputsOf_cons,
        projection sys hro t σ sh (update L u (sys.step sh (L u) op).2.1) (update P u rest)]
      by_cases hut : u = t
      · subst hut
        rw [if_pos rfl, update_same, update_same, List.count_cons_self, hp, List.take_succ_cons]
        rfl
      · rw [if_neg hut, update_other _ _ _ _ (Ne.symm hut), update_other _ _ _ _ (Ne.symm hut),
          List.count_cons_of_ne hut]

/-- **every complete interleaving agrees with the sequential run, thread by thread** (hence all interleavings agree
    with each other) -/
theorem interleaving_eq_sequential (sys : Sys Sh Lo Op Out) (hro : ReadOnly sys) (t : Nat) (σ : List Nat) (sh : Sh)
    (L : Nat → Lo) (P : Nat → List Op) (hfair : (P t).length ≤ σ.count t) :
    outputsOf t (runSched sys σ sh L P).2 = seqRun sys sh (L t) (P t) := by
  rw [projection sys hro t σ sh L P, List.take_of_length_le hfair]

end Psa.Model.Conc
