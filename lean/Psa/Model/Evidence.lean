/-
  The COSE_Sign1 envelope and `Evidence` (evidence.go + the parts of
  veraison/go-cose v1.3.0-rc.1 it drives), with signatures as an *ideal
  functionality*: the world carries a log of (key, to-be-signed bytes,
  signature) triples written only by signing; verification is membership.
  go-cose's header-parameter validation is over-approximated (any well-formed
  map is accepted), which is the sound direction for C20.
-/
import Psa.Model.Codec
namespace Psa.Model
open Psa

/-- what `ProtectedHeader.Algorithm()` reports -/
inductive AlgHdr
  | alg (a : Int)
  | notFound
  | invalid
  deriving DecidableEq, Repr

/-- `cose.Sign1Message` as far as psatoken uses it -/
structure Msg where
  /-- content of the protected-header byte string ([] = empty protected header) -/
  prot : Bytes
  /-- `nil` payload = `none` -/
  payload : Option Bytes
  sig : Bytes
  deriving DecidableEq, Repr

/-- `cose.NewSign1Message()` -/
def Msg.fresh : Msg := { prot := [], payload := none, sig := [] }

structure Ev where
  claims : Option Claims
  msg : Option Msg
  deriving DecidableEq, Repr

def Ev.empty : Ev := { claims := none, msg := none }

mutual
def Cbor.hasTag : Cbor → Bool
  | .tag _ _ => true
  | .arr xs => Cbor.hasTagList xs
  | .map kvs => Cbor.hasTagPairs kvs
  | _ => false
def Cbor.hasTagList : List Cbor → Bool
  | [] => false
  | x :: xs => Cbor.hasTag x || Cbor.hasTagList xs
def Cbor.hasTagPairs : List (Cbor × Cbor) → Bool
  | [] => false
  | (k, v) :: rest => Cbor.hasTag k || Cbor.hasTag v || Cbor.hasTagPairs rest
end

/-- the `alg` (label 1) parameter of a protected-header map -/
def algOfMap : List (Cbor × Cbor) → AlgHdr
  | [] => .notFound
  | (.uint 1, v) :: _ =>
    (match v with
     | .uint n => .alg n
     | .nint n => .alg (-1 - (n : Int))
     | _ => .invalid)
  | _ :: rest => algOfMap rest

/-- `Headers.Protected.Algorithm()` of a message whose protected bytes are `prot` -/
def protAlg (prot : Bytes) : AlgHdr :=
  if prot = [] then .notFound
  else match Cbor.decodeAll {} prot with
    | some (.map kvs) => algOfMap kvs
    | _ => .invalid

/-- Sig_structure: `["Signature1", protected, external_aad, payload]` (the tree; `toBeSigned` is its encoding) -/
def sigStructure (prot ext payload : Bytes) : Cbor :=
  .arr [.tstr (strBytes "Signature1"), .bstr prot, .bstr ext, .bstr payload]

def toBeSigned (prot ext payload : Bytes) : Bytes := (sigStructure prot ext payload).enc

/-- the external AAD psatoken passes to both Sign and Verify (tied by T2) -/
def externalAAD : Bytes := []

/-- ideal signature functionality -/
structure World where
  log : List (Nat × Bytes × Bytes)
  deriving Repr

def World.empty : World := { log := [] }

/-- `verifier.Verify(tbs, sig)` for the key `k` -/
def World.sigVerify (w : World) (k : Nat) (tbs sig : Bytes) : Bool := w.log.contains (k, tbs, sig)

inductive SignerKind
  /-- signs: the oracle returns `reply` (supplied by the environment) -/
  | good
  /-- `Sign` returns an error -/
  | failing
  /-- `Sign` returns no error and an empty signature -/
  | emptySig
  deriving DecidableEq, Repr

structure Signer where
  key : Nat
  alg : Int
  kind : SignerKind
  reply : Bytes
  deriving Repr

/-- protected header `{1: alg}` as encoded by go-cose -/
def protOfAlg (alg : Int) : Bytes := (Cbor.map [(.uint 1, cInt alg)]).enc

/-- tag-18 envelope around a message (`Sign1Message.MarshalCBOR`) -/
def envelopeTree (m : Msg) : Cbor :=
  .tag 18 (.arr [.bstr m.prot, .map [], (match m.payload with | some p => .bstr p | none => .null), .bstr m.sig])

/-- `(*Evidence).SetClaims` -/
def evSetClaims (e : Ev) (c : Claims) : Ev × Outcome Unit :=
  match validate c with
  | .ok _ => ({ e with claims := some c }, .ok ())
  | .err m => (e, .err m)
  | .panic s => (e, .panic s)

/-- `doSign` on a message whose payload has been set -/
def doSign (w : World) (m : Msg) (s : Signer) : World × Msg × Outcome Bytes :=
  let m1 := { m with prot := protOfAlg s.alg }
  match m1.payload with
  | none => (w, m1, .err eOther)                    -- ErrMissingPayload
  | some p =>
    match s.kind with
    | .failing => (w, m1, .err eOther)
    | .emptySig => (w, m1, .err eOther)             -- MarshalCBOR: ErrEmptySignature
    | .good =>
      if s.reply = [] then (w, m1, .err eOther)
      else
        let w' : World := { log := (s.key, toBeSigned m1.prot externalAAD p, s.reply) :: w.log }
        let m2 := { m1 with sig := s.reply }
        (w', m2, .ok (envelopeTree m2).enc)

/-- the payload `Sign` (`validated = false`) / `ValidateAndSign` (`validated = true`) compute:
    `ValidateAndSign` calls `Validate()` on the claims (a nil interface panics), `Sign` encodes
    them as they are (a nil interface encodes as CBOR null) -/
def signPayload (validated : Bool) (claims : Option Claims) : Outcome Bytes :=
  match claims with
  | none => if validated then .panic "nil claims" else .ok [0xf6]
  | some c => (if validated then validate c else .ok ()).bind fun _ => encodeClaims c

/-- `(*Evidence).Sign` / `(*Evidence).ValidateAndSign`: fresh message first, then payload, then `doSign` -/
def evSign (validated : Bool) (w : World) (e : Ev) (s : Signer) : World × Ev × Outcome Bytes :=
  match signPayload validated e.claims with
  | .err m => (w, { e with msg := some Msg.fresh }, .err m)
  | .panic x => (w, { e with msg := some Msg.fresh }, .panic x)
  | .ok payload =>
    let r := doSign w { Msg.fresh with payload := some payload } s
    (r.1, { e with msg := some r.2.1 }, r.2.2)

/-- header maps whose validation by go-cose the model reproduces exactly: the empty protected
    header, or exactly `{1: <integer>}`; an empty unprotected map.  Anything else that is a
    well-formed map is `ood` (go-cose's header-parameter rules are not modelled). -/
def protClass (prot : Bytes) : Dec Unit :=
  if prot = [] then .ok ()
  else match Cbor.decodeAll {} prot with
    | some (.map [(.uint 1, .uint _)]) => .ok ()
    | some (.map [(.uint 1, .nint n)]) => if n < 2 ^ 63 then .ok () else .ood
    | some (.map kvs) => if Cbor.hasTagPairs kvs then .err else .ood
    | _ => .err

/-- the four elements of a COSE_Sign1 array, typed as go-cose types them; tags forbidden -/
def msgOfArray : List Cbor → Dec Msg
  | [.bstr prot, .map un, pl, .bstr sig] =>
    if Cbor.hasTagPairs un then .err
    else if sig = [] then .err
    else
      match protClass prot with
      | .err => .err
      | .ood => .ood
      | .ok _ =>
        if !un.isEmpty then .ood
        else match pl with
          | .bstr p => .ok { prot := prot, payload := some p, sig := sig }
          | .simple 22 => .ok { prot := prot, payload := none, sig := sig }
          | _ => .err
  | _ => .err

/-- `Sign1Message.UnmarshalCBOR`: the `d2 84` prefix, then a 4-array -/
def decodeEnvelope (bs : Bytes) : Dec Msg :=
  match bs with
  | 0xd2 :: 0x84 :: _ =>
    (match Cbor.decodeAll {} bs with
     | some (.tag 18 (.arr xs)) => msgOfArray xs
     | _ => .err)
  | _ => .err

/-- `(*Evidence).UnmarshalCOSE` -/
def evUnmarshal (urlNorm : Bytes → Dec Bytes) (extra : List Bytes) (e : Ev) (bs : Bytes) : Ev × Dec Unit :=
  match decodeEnvelope bs with
  | .err => ({ e with msg := some Msg.fresh }, .err)
  | .ood => ({ e with msg := some Msg.fresh }, .ood)
  | .ok m =>
    -- a failed claims decode clears the claims and leaves a fresh message (fix 930c217)
    match m.payload with
    | none => ({ claims := none, msg := some Msg.fresh }, .err)        -- decoding of an empty buffer fails
    | some p =>
      match decodeClaims urlNorm extra p with
      | .ok c => ({ claims := some c, msg := some m }, .ok ())
      | .err => ({ claims := none, msg := some Msg.fresh }, .err)
      | .ood => ({ claims := none, msg := some Msg.fresh }, .ood)

/-- the environment's knowledge that key `k` legitimately signed the token `bs` elsewhere -/
def World.know (w : World) (k : Nat) (bs : Bytes) : World :=
  match decodeEnvelope bs with
  | .ok m => (match m.payload with
    | some p => { log := (k, toBeSigned m.prot externalAAD p, m.sig) :: w.log }
    | none => w)
  | _ => w

/-- which (algorithm, key) pairs `cose.NewVerifier` accepts: a parameter of the environment -/
abbrev KeyTable := Nat → Int → Bool

/-- `(*Evidence).Verify` with the public key of `k` -/
def evVerify (kt : KeyTable) (w : World) (e : Ev) (k : Nat) : Outcome Unit :=
  match e.msg with
  | none => .err eOther
  | some m =>
    match protAlg m.prot with
    | .notFound => .err eOther
    | .invalid => .err eOther
    | .alg a =>
      if !kt k a then .err eOther
      else match m.payload with
        | none => .err eOther
        | some p =>
          if m.sig = [] then .err eOther
          else if w.sigVerify k (toBeSigned m.prot externalAAD p) m.sig then .ok () else .err eOther

end Psa.Model
