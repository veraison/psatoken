/-
  Code-shaped model of the claims layer: claims_p1.go, claims_p2.go,
  swcomponent.go, swcomponents.go, iswcomponent.go, iclaims.go:ValidateClaims,
  errors.go:FilterError, and the Validate* family of claims_common.go.

  One Lean function per Go function that matters, same order of checks.
  A nil pointer field is `none`.  Go strings are byte sequences.

  Representation notes (what is *modelled*, DESIGN §3):
  * `Claims` covers both P1Claims and P2Claims.  Fields that one profile does
    not have (`noSw` for profile 2) are ignored by that profile's functions.
  * `profile`: P1 `*string` is `some (.str s)`; P2 `*eat.Profile` is
    `some (.str s)` with `s` what `Profile.Get()` returns, or `some .invalid`
    for a zero `eat.Profile{}` (whose `Get()` fails).
  * `nonce`: P1 `*[]byte` is `some [b]`; P2 `*eat.Nonce` is `some l`.
    Values with `prof = p1` and a non-singleton list are not the image of any
    Go value (`Claims.WF` excludes them; the driver refuses them).
-/
import Psa.Basic
import Psa.Model.Lifecycle
namespace Psa.Model
open Psa

inductive Prof | p1 | p2
  deriving DecidableEq, Repr

inductive ProfVal
  | str (s : Bytes)
  | invalid
  deriving DecidableEq, Repr

structure SwComp where
  mtype : Option Bytes     -- key 1, text, optional
  mval : Option Bytes      -- key 2, bstr, mandatory
  version : Option Bytes   -- key 4, text, optional
  signer : Option Bytes    -- key 5, bstr, mandatory
  mdesc : Option Bytes     -- key 6, text, optional
  deriving DecidableEq, Repr

/-- the `ISwComponents` interface field -/
inductive SwField
  | nilIface
  /-- `&SwComponents{values}`: `none` = nil slice, inner `none` = nil element -/
  | cont (vals : Option (List (Option SwComp)))
  deriving DecidableEq, Repr

structure Claims where
  prof : Prof
  canonical : Bytes
  profile : Option ProfVal
  clientId : Option Int
  lifecycle : Option Nat
  implId : Option Bytes
  bootSeed : Option Bytes
  certRef : Option Bytes
  sw : SwField
  noSw : Option Nat
  nonce : Option (List Bytes)
  instId : Option Bytes
  vsi : Option Bytes
  deriving DecidableEq, Repr

def p1Name : Bytes := strBytes "PSA_IOT_PROFILE_1"
def p2Name : Bytes := strBytes "http://arm.com/psa/2.0.0"

def Claims.WF (c : Claims) : Prop :=
  match c.prof with
  | .p1 => (c.nonce = none ∨ ∃ b, c.nonce = some [b]) ∧ c.profile ≠ some .invalid
  | .p2 => c.noSw = none

/-! ### claims_common.go validators -/

def validateImplID (v : Bytes) : Outcome Unit :=
  if v.length != 32 then .err eWrongSyntax else .ok ()

def validatePSAHashType (b : Bytes) : Outcome Unit :=
  let l := b.length
  if l != 32 && l != 48 && l != 64 then .err eWrongSyntax else .ok ()

def validateNonce (v : Bytes) : Outcome Unit := validatePSAHashType v

def validateInstID (v : Bytes) : Outcome Unit :=
  if v.length != 33 then .err eWrongSyntax
  else (idx "ValidateInstID" v 0).bind fun b =>
    if b.toNat != 1 then .err eWrongSyntax else .ok ()

def validateVSI (v : Bytes) : Outcome Unit :=
  if v.isEmpty then .err eWrongSyntax else .ok ()

def isDigit (b : UInt8) : Bool := 48 ≤ b.toNat && b.toNat ≤ 57

/-- `^\d{13}$` on a Go string -/
def isEan13 (s : Bytes) : Bool := s.length == 13 && s.all isDigit

/-- `^\d{13}-\d{5}$` on a Go string -/
def isEan13p5 (s : Bytes) : Bool :=
  s.length == 19 && (s.take 13).all isDigit && s[13]? == some 45 && (s.drop 14).all isDigit

/-! ### errors.go -/

/-- `FilterError`: nil for nil, missing-optional and not-in-profile errors. -/
def filtered (m : ErrMask) : Bool := m &&& 5 != 0

def filterError {α} (o : Outcome α) : Outcome Unit :=
  match o with
  | .ok _ => .ok ()
  | .err m => if filtered m then .ok () else .err m
  | .panic s => .panic s

/-! ### software components -/

def SwComp.getMeasurementType (sc : SwComp) : Outcome Bytes :=
  match sc.mtype with | none => .err eMissingOptional | some v => .ok v
def SwComp.getMeasurementValue (sc : SwComp) : Outcome Bytes :=
  match sc.mval with
  | none => .err eMissingMandatory
  | some v => (validatePSAHashType v).bind fun _ => .ok v
def SwComp.getVersion (sc : SwComp) : Outcome Bytes :=
  match sc.version with | none => .err eMissingOptional | some v => .ok v
def SwComp.getSignerID (sc : SwComp) : Outcome Bytes :=
  match sc.signer with
  | none => .err eMissingMandatory
  | some v => (validatePSAHashType v).bind fun _ => .ok v
def SwComp.getMeasurementDesc (sc : SwComp) : Outcome Bytes :=
  match sc.mdesc with | none => .err eMissingOptional | some v => .ok v

/-- `ValidateSwComponent` (iswcomponent.go), getters in source order -/
def SwComp.validate (sc : SwComp) : Outcome Unit :=
  (filterError sc.getMeasurementType).bind fun _ =>
  (filterError sc.getMeasurementValue).bind fun _ =>
  (filterError sc.getVersion).bind fun _ =>
  (filterError sc.getSignerID).bind fun _ =>
  filterError sc.getMeasurementDesc

/-- `SwComponents.Values()`: validates every element in order; a nil `*SwComponent`
    (what decoding a null array element yields) is a wrong-syntax error (fix 41aaac8;
    before it, the value-receiver call on the nil pointer panicked). -/
def valuesOf : List (Option SwComp) → Outcome (List SwComp)
  | [] => .ok []
  | none :: _ => .err eWrongSyntax
  | some sc :: rest =>
    match sc.validate with
    | .ok _ => (valuesOf rest).bind fun l => .ok (sc :: l)
    | .err m => .err m
    | .panic s => .panic s

def SwField.elems : SwField → List (Option SwComp)
  | .nilIface => []
  | .cont none => []
  | .cont (some l) => l

/-- `c.SwComponents == nil || c.SwComponents.IsEmpty()` -/
def SwField.nilOrEmpty (f : SwField) : Bool := f.elems.isEmpty

/-! ### getters -/

inductive Getter
  | profile | clientId | lifecycle | implId | bootSeed | certRef | sw | nonce | instId | vsi
  deriving DecidableEq, Repr

inductive Val
  | text (b : Bytes)
  | int (i : Int)
  | nat (n : Nat)
  | bytes (b : Bytes)
  | comps (l : Option (List SwComp))
  deriving DecidableEq, Repr

def getProfile (c : Claims) : Outcome Val :=
  match c.prof with
  | .p1 =>
    match c.profile with
    | none => .ok (.text c.canonical)
    | some (.str p) => if p != c.canonical then .err eWrongProfile else .ok (.text p)
    | some .invalid => .err eOther
  | .p2 =>
    match c.profile with
    | none => .err eMissingMandatory
    | some .invalid => .err eOther
    | some (.str p) => if p != c.canonical then .err eWrongProfile else .ok (.text p)

def getClientID (c : Claims) : Outcome Val :=
  match c.clientId with
  | none => .err eMissingMandatory
  | some v => .ok (.int v)

def getSecurityLifeCycle (c : Claims) : Outcome Val :=
  match c.lifecycle with
  | none => .err eMissingMandatory
  | some v => (validateSecurityLifeCycle v).bind fun _ => .ok (.nat v)

def getImplID (c : Claims) : Outcome Val :=
  match c.implId with
  | none => .err eMissingMandatory
  | some v => (validateImplID v).bind fun _ => .ok (.bytes v)

def getBootSeed (c : Claims) : Outcome Val :=
  match c.prof with
  | .p1 =>
    match c.bootSeed with
    | none => .err eMissingMandatory
    | some v => if v.length != 32 then .err eWrongSyntax else .ok (.bytes v)
  | .p2 =>
    match c.bootSeed with
    | none => .err eMissingOptional
    | some v => if v.length < 8 || v.length > 32 then .err eWrongSyntax else .ok (.bytes v)

def getCertificationReference (c : Claims) : Outcome Val :=
  match c.certRef with
  | none => .err eMissingOptional
  | some s =>
    match c.prof with
    | .p1 => if !isEan13 s && !isEan13p5 s then .err eWrongSyntax else .ok (.text s)
    | .p2 => if !isEan13p5 s then .err eWrongSyntax else .ok (.text s)

def getSoftwareComponents (c : Claims) : Outcome Val :=
  match c.prof with
  | .p1 =>
    if c.sw.nilOrEmpty then
      match c.noSw with
      | none => .err eMissingMandatory
      | some _ => .ok (.comps none)
    else
      match c.noSw with
      | some _ => .err eWrongSyntax
      | none => (valuesOf c.sw.elems).bind fun l => .ok (.comps (some l))
  | .p2 =>
    if c.sw.nilOrEmpty then .err eMissingMandatory
    else (valuesOf c.sw.elems).bind fun l => .ok (.comps (some l))

def getNonce (c : Claims) : Outcome Val :=
  match c.nonce with
  | none => .err eMissingMandatory
  | some [n] => (validateNonce n).bind fun _ => .ok (.bytes n)
  | some _ => .err eWrongSyntax

def getInstID (c : Claims) : Outcome Val :=
  match c.instId with
  | none => .err eMissingMandatory
  | some v => (validateInstID v).bind fun _ => .ok (.bytes v)

def getVSI (c : Claims) : Outcome Val :=
  match c.vsi with
  | none => .err eMissingOptional
  | some v => (validateVSI v).bind fun _ => .ok (.text v)

def get : Getter → Claims → Outcome Val
  | .profile => getProfile
  | .clientId => getClientID
  | .lifecycle => getSecurityLifeCycle
  | .implId => getImplID
  | .bootSeed => getBootSeed
  | .certRef => getCertificationReference
  | .sw => getSoftwareComponents
  | .nonce => getNonce
  | .instId => getInstID
  | .vsi => getVSI

def Getter.all : List Getter :=
  [.profile, .clientId, .lifecycle, .implId, .bootSeed, .certRef, .sw, .nonce, .instId, .vsi]

/-- `ValidateClaims` walking the getters in `order` through `FilterError`. -/
def validateWith : List Getter → Claims → Outcome Unit
  | [], _ => .ok ()
  | g :: rest, c =>
    match filterError (get g c) with
    | .ok _ => validateWith rest c
    | .err m => .err m
    | .panic s => .panic s

/-- the order in iclaims.go:ValidateClaims (T2 ties that the walk covers the ten getters; the order does not matter:
    `C01.validate_order_irrelevant`) -/
def validateOrder : List Getter :=
  [.profile, .lifecycle, .implId, .sw, .nonce, .instId, .vsi, .clientId, .bootSeed, .certRef]

def validate (c : Claims) : Outcome Unit := validateWith validateOrder c

/-! ### constructors (newP1Claims / newP2Claims) -/

def Claims.new (p : Prof) : Claims :=
  match p with
  | .p1 => { prof := .p1, canonical := p1Name, profile := some (.str p1Name), clientId := none,
             lifecycle := none, implId := none, bootSeed := none, certRef := none,
             sw := .cont none, noSw := none, nonce := none, instId := none, vsi := none }
  | .p2 => { prof := .p2, canonical := p2Name, profile := some (.str p2Name), clientId := none,
             lifecycle := none, implId := none, bootSeed := none, certRef := none,
             sw := .cont none, noSw := none, nonce := none, instId := none, vsi := none }

end Psa.Model
