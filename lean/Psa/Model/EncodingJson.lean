/-
  psatoken/encoding, JSON side (encoding/json.go) at the level of JSON *trees*: the ordered field map
  (`structFieldsJSON`: member names in document order + a name ↦ raw value map in which the last duplicate wins),
  serialise / populate over struct shapes.  The token loops behind `FromJSON` are in
  Psa/Model/JsonTokens.lean, the text layer (string escapes, number syntax) in Psa/Model/JsonText.lean; for the ops of
  this file Go's text enters as the harness's tree.
-/
import Psa.Model.Json
import Psa.Model.Encoding
namespace Psa.Model.EncJ
open Psa Psa.Model

structure JMap where
  /-- `Keys`: every member name, in order (duplicates in the input stay duplicated here) -/
  keys : List Bytes
  /-- `Fields`: name ↦ raw value -/
  fields : List (Bytes × Json)

def JMap.empty : JMap := { keys := [], fields := [] }

def JMap.has (m : JMap) (k : Bytes) : Bool := m.fields.any (·.1 == k)

def JMap.add (m : JMap) (k : Bytes) (v : Json) : Outcome JMap :=
  if m.has k then .err eOther else .ok { keys := m.keys ++ [k], fields := m.fields ++ [(k, v)] }

def JMap.get (m : JMap) (k : Bytes) : Option Json := (m.fields.find? (·.1 == k)).map (·.2)

/-- `Delete` (after fix 9cf080f): drops the field and filters every occurrence of the name out of `Keys` -/
def JMap.delete (m : JMap) (k : Bytes) : JMap :=
  { keys := m.keys.filter (· != k), fields := m.fields.filter (·.1 != k) }

/-- `ToJSON`: one object, members in `Keys` order -/
def JMap.toJSON (m : JMap) : Json := .obj (m.keys.map fun k => (k, (m.get k).getD .null))

/-- what `json.Unmarshal(data, &map)` leaves for a member list: the last value of every name -/
def lastWins : List (Bytes × Json) → List (Bytes × Json)
  | [] => []
  | (k, v) :: rest => if rest.any (·.1 == k) then lastWins rest else (k, v) :: lastWins rest

/-- `FromJSON`: the document must be an object -/
def fromJSON : Json → Dec JMap
  | .obj ms => .ok { keys := ms.map (·.1), fields := lastWins ms }
  | _ => .err

structure FieldSpecJ where
  name : Bytes
  omitempty : Bool
  ty : Enc.FTy

inductive ShapeJ
  | mk (fields : List FieldSpecJ) (embeds : List ShapeJ)

def jFVal : Option Enc.FVal → Json
  | none => .null
  | some (.int i) => .int i
  | some (.text s) => .str s
  | some (.bytes b) => jBytes b

def addFields : List FieldSpecJ → List (Option Enc.FVal) → JMap → Outcome JMap
  | f :: fs, v :: vs, m =>
    if f.omitempty && v.isNone then addFields fs vs m
    else (m.add f.name (jFVal v)).bind fun m' => addFields fs vs m'
  | _, _, m => .ok m

mutual
/-- `doSerializeStructToJSON` -/
def serializeInto : ShapeJ → Enc.SVal → JMap → Outcome JMap
  | .mk fields embeds, .mk vals evals, m => (addFields fields vals m).bind fun m' => serializeEmbeds embeds evals m'
def serializeEmbeds : List ShapeJ → List Enc.SVal → JMap → Outcome JMap
  | s :: ss, v :: vs, m => (serializeInto s v m).bind fun m' => serializeEmbeds ss vs m'
  | _, _, m => .ok m
end

/-- `SerializeStructToJSON` -/
def serialize (sh : ShapeJ) (v : Enc.SVal) : Outcome Json := (serializeInto sh v JMap.empty).map JMap.toJSON

def decFVal (ty : Enc.FTy) (j : Json) : Dec (Option Enc.FVal) :=
  match ty with
  | .int => (jDecInt (-9223372036854775808) 9223372036854775807 j).map fun o => o.map .int
  | .text => (jDecText j).map fun o => o.map .text
  | .bytes => (jDecBytes j).map fun o => o.map .bytes

def popFields : List FieldSpecJ → JMap → Dec (List (Option Enc.FVal) × JMap)
  | [], m => .ok ([], m)
  | f :: fs, m =>
    match m.get f.name with
    | none => if f.omitempty then (popFields fs m).map fun (vs, m') => (none :: vs, m') else .err
    | some raw =>
      (decFVal f.ty raw).bind fun v => (popFields fs (m.delete f.name)).map fun (vs, m') => (v :: vs, m')

mutual
/-- `doPopulateStructFromJSON` -/
def populateFrom : ShapeJ → JMap → Dec (Enc.SVal × JMap)
  | .mk fields embeds, m =>
    (popFields fields m).bind fun (vals, m') => (populateEmbeds embeds m').map fun (evs, m'') => (.mk vals evs, m'')
def populateEmbeds : List ShapeJ → JMap → Dec (List Enc.SVal × JMap)
  | [], m => .ok ([], m)
  | s :: ss, m => (populateFrom s m).bind fun (v, m') => (populateEmbeds ss m').map fun (vs, m'') => (v :: vs, m'')
end

/-- `PopulateStructFromJSON` -/
def populate (sh : ShapeJ) (j : Json) : Dec Enc.SVal :=
  (fromJSON j).bind fun m => (populateFrom sh m).map (·.1)

end Psa.Model.EncJ
