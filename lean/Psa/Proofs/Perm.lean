/-
  Order independence of the typed struct decoder (C04): a CBOR map is a set of entries; the order in which a
  well-formed token lists its claims does not change what is decoded. Proved for the abstract decoder of
  `Psa/Model/Codec.lean` over any struct whose field setters are independent of one another, then instantiated for
  the selector struct, both claims types and the software component.
-/
import Psa.Proofs.Slots
import Psa.Proofs.StructStep
import Psa.Cbor.OkAt
namespace Psa.Proofs.Perm
open Psa Psa.Model Psa.Proofs

/-- which of ok / refused / outside the model a decode is, whatever the value -/
def kind {σ} : Dec σ → Nat
  | .ok _ => 0 | .err => 1 | .ood => 2

/-- the field setters of a struct are independent of one another -/
structure Indep {σ} (keys : List Int) (set : σ → Int → Cbor → Dec σ) : Prop where
  /-- whether a field's value decodes does not depend on what other fields hold -/
  stable : ∀ s s' k k' v v', k ∈ keys → k' ∈ keys → k ≠ k' → set s k' v' = .ok s' → kind (set s' k v) = kind (set s k v)
  /-- two successful assignments to different fields commute -/
  comm : ∀ s s1 s2 k k' v v', k ∈ keys → k' ∈ keys → k ≠ k' → set s k v = .ok s1 → set s k' v' = .ok s2 →
    ∃ s12, set s1 k' v' = .ok s12 ∧ set s2 k v = .ok s12

/-- decoder states that differ only in the order in which fields were found -/
def Equiv {σ} (a b : DState σ) : Prop :=
  a.val = b.val ∧ a.bad = b.bad ∧ a.ood = b.ood ∧ ∀ k, k ∈ a.found ↔ k ∈ b.found

theorem Equiv.refl {σ} (a : DState σ) : Equiv a a := ⟨rfl, rfl, rfl, fun _ => Iff.rfl⟩
theorem Equiv.symm {σ} {a b : DState σ} (h : Equiv a b) : Equiv b a :=
  ⟨h.1.symm, h.2.1.symm, h.2.2.1.symm, fun k => (h.2.2.2 k).symm⟩
theorem Equiv.trans {σ} {a b c : DState σ} (h : Equiv a b) (h' : Equiv b c) : Equiv a c :=
  ⟨h.1.trans h'.1, h.2.1.trans h'.2.1, h.2.2.1.trans h'.2.2.1, fun k => (h.2.2.2 k).trans (h'.2.2.2 k)⟩

theorem put_bad_comm {σ} (set : σ → Int → Cbor → Dec σ) (s : DState σ) (k : Int) (v : Cbor) :
    put set { s with bad := true } k v = { put set s k v with bad := true } := by
  unfold put
  by_cases hc : k ∈ s.found
  · simp [hc]
  · simp only [hc, if_false]
    cases set s.val k v <;> rfl

theorem put_congr {σ} (set : σ → Int → Cbor → Dec σ) (a b : DState σ) (h : Equiv a b) (k : Int) (v : Cbor) :
    Equiv (put set a k v) (put set b k v) := by
  by_cases hc : k ∈ a.found
  · rw [put_of_mem set a k v hc, put_of_mem set b k v ((h.2.2.2 k).mp hc)]
    exact h
  · obtain ⟨hv, hb, ho, hf⟩ := h
    unfold put
    rw [if_neg hc, if_neg fun x => hc ((hf k).mpr x), ← hv]
    have hf' : ∀ j, j ∈ k :: a.found ↔ j ∈ k :: b.found := by
      intro j; simp only [List.mem_cons, hf j]
    cases set a.val k v with
    | ok x => exact ⟨rfl, hb, ho, hf'⟩
    | err => exact ⟨rfl, rfl, ho, hf'⟩
    | ood => exact ⟨rfl, hb, rfl, hf'⟩

theorem step_congr {σ} (keys : List Int) (set : σ → Int → Cbor → Dec σ) (a b : DState σ) (h : Equiv a b)
    (kv : Cbor × Cbor) : Equiv (structStep keys set a kv) (structStep keys set b kv) := by
  rw [structStep_eq, structStep_eq]
  match Sel keys kv with
  | none => exact ⟨h.1, rfl, h.2.2.1, h.2.2.2⟩
  | some none => exact h
  | some (some k) => exact put_congr set a b h k kv.2

theorem Indep.fail_stable {σ} {keys : List Int} {set : σ → Int → Cbor → Dec σ} (hI : Indep keys set) {s s' : σ}
    {k k' : Int} {v v' : Cbor} (hk : k ∈ keys) (hk' : k' ∈ keys) (hne : k ≠ k') (h : set s k' v' = .ok s')
    (hf : ∀ x, set s k v ≠ .ok x) : set s' k v = set s k v := by
  have := hI.stable s s' k k' v v' hk hk' hne h
  match e : set s k v, e' : set s' k v with
  | .ok x, _ => exact absurd e (hf x)
  | .err, .err | .ood, .ood => rfl
  | .err, .ok _ | .err, .ood | .ood, .ok _ | .ood, .err =>
    rw [e, e'] at this
    cases this

theorem put_put {σ} (keys : List Int) (set : σ → Int → Cbor → Dec σ) (hI : Indep keys set) (s : DState σ)
    (k1 k2 : Int) (v1 v2 : Cbor) (h1 : k1 ∈ keys) (h2 : k2 ∈ keys) (hne : k1 ≠ k2) :
    Equiv (put set (put set s k1 v1) k2 v2) (put set (put set s k2 v2) k1 v1) := by
  by_cases c1 : k1 ∈ s.found
  · rw [put_of_mem set s k1 v1 c1, put_of_mem set _ k1 v1 ((put_found ..).mpr (.inl c1))]
    exact Equiv.refl _
  by_cases c2 : k2 ∈ s.found
  · rw [put_of_mem set s k2 v2 c2, put_of_mem set _ k2 v2 ((put_found ..).mpr (.inl c2))]
    exact Equiv.refl _
  have f12 : k2 ∉ k1 :: s.found := by simp [c2, Ne.symm hne]
  have f21 : k1 ∉ k2 :: s.found := by simp [c1, hne]
  have hfound (j : Int) : j ∈ k2 :: k1 :: s.found ↔ j ∈ k1 :: k2 :: s.found := (List.Perm.swap ..).mem_iff
  unfold put
  simp only [c1, c2, if_false]
  -- in either order the second store meets the outcome it would have had first: `comm` when both succeed, else `fail_stable`
  cases r1 : set s.val k1 v1 with
  | ok a =>
    cases r2 : set s.val k2 v2 with
    | ok b =>
      obtain ⟨ab, hab, hba⟩ := hI.comm s.val a b k1 k2 v1 v2 h1 h2 hne r1 r2
      simp only [f12, f21, if_false, hab, hba]
      exact ⟨rfl, rfl, rfl, hfound⟩
    | err | ood =>
      simp only [f12, f21, if_false, r1, hI.fail_stable (v := v2) h2 h1 hne.symm r1 (by simp [r2]), r2]
      exact ⟨rfl, rfl, rfl, hfound⟩
  | err | ood =>
    cases r2 : set s.val k2 v2 with
    | ok b =>
      simp only [f12, f21, if_false, hI.fail_stable (v := v1) h1 h2 hne r2 (by simp [r1]), r1]
      exact ⟨rfl, rfl, rfl, hfound⟩
    | _ => simp only [f12, f21, if_false, r1]; exact ⟨rfl, rfl, rfl, hfound⟩

/-- two entries that do not select the same field -/
def Apart (keys : List Int) (a b : Cbor × Cbor) : Prop :=
  ∀ k, Sel keys a = some (some k) → Sel keys b ≠ some (some k)

theorem Apart.symm {keys : List Int} {a b : Cbor × Cbor} (h : Apart keys a b) : Apart keys b a :=
  fun k hb ha => h k ha hb

theorem step_swap {σ} (keys : List Int) (set : σ → Int → Cbor → Dec σ) (hI : Indep keys set) (s : DState σ)
    (a b : Cbor × Cbor) (hd : Apart keys a b) :
    Equiv (structStep keys set (structStep keys set s a) b) (structStep keys set (structStep keys set s b) a) := by
  rw [structStep_eq, structStep_eq, structStep_eq, structStep_eq]
  match ha : Sel keys a, hb : Sel keys b with
  | none, none | none, some none | some none, none | some none, some none => exact Equiv.refl _
  | some none, some (some k) | some (some k), some none => exact Equiv.refl _
  | none, some (some k) | some (some k), none => simp only [put_bad_comm]; exact Equiv.refl _
  | some (some k1), some (some k2) =>
    exact put_put keys set hI s k1 k2 a.2 b.2 (sel_mem keys a k1 ha) (sel_mem keys b k2 hb) fun e => hd k1 ha (e ▸ hb)

theorem foldl_congr {σ} (keys : List Int) (set : σ → Int → Cbor → Dec σ) :
    ∀ (l : List (Cbor × Cbor)) (s t : DState σ), Equiv s t →
      Equiv (l.foldl (structStep keys set) s) (l.foldl (structStep keys set) t)
  | [], _, _, h => h
  | kv :: l, s, t, h => foldl_congr keys set l _ _ (step_congr keys set s t h kv)

theorem foldl_perm {σ} (keys : List Int) (set : σ → Int → Cbor → Dec σ) (hI : Indep keys set)
    {l₁ l₂ : List (Cbor × Cbor)} (hp : l₁.Perm l₂) : l₁.Pairwise (Apart keys) → ∀ s t : DState σ, Equiv s t →
      Equiv (l₁.foldl (structStep keys set) s) (l₂.foldl (structStep keys set) t) := by
  induction hp with
  | nil => intro _ s t h; exact h
  | cons x _ ih =>
    intro hpw s t h
    exact ih (List.pairwise_cons.mp hpw).2 _ _ (step_congr keys set s t h x)
  | swap x y l =>
    intro hpw s t h
    simp only [List.foldl_cons]
    apply foldl_congr
    have hyx : Apart keys y x := (List.pairwise_cons.mp hpw).1 x (by simp)
    exact (step_swap keys set hI s y x hyx).trans
      (step_congr keys set _ _ (step_congr keys set s t h x) y)
  | trans h₁ _ ih₁ ih₂ =>
    intro hpw s t h
    have hpw2 := (h₁.pairwise_iff (fun h => Apart.symm h)).mp hpw
    exact (ih₁ hpw s s (Equiv.refl s)).trans (ih₂ hpw2 s t h)

/-- **order independence of the struct decoder**: two maps holding the same entries in different orders, no two of
    which select the same field, decode to the same result -/
theorem structDecode_perm {σ} (keys : List Int) (set : σ → Int → Cbor → Dec σ) (hI : Indep keys set) (init : σ)
    (l₁ l₂ : List (Cbor × Cbor)) (hp : l₁.Perm l₂) (hpw : l₁.Pairwise (Apart keys)) :
    structDecode keys set init l₁ = structDecode keys set init l₂ := by
  obtain ⟨hv, hb, ho, _⟩ := foldl_perm keys set hI hp hpw _ _ (Equiv.refl { val := init, found := [], bad := false, ood := false })
  unfold structDecode
  simp only [hv, hb, ho]

theorem kind_set {σ} (a : Slot σ) (s : σ) (v : Cbor) : kind (a.set s v) = kind (a.dec s v) := by
  unfold Slot.set; cases a.dec s v <;> rfl

/-- a setter that is, key by key, a slot, the slots of the listed keys being pairwise apart -/
theorem indep_of_slots {σ} (keys : List Int) (set : σ → Int → Cbor → Dec σ) (slot : Int → Slot σ)
    (hset : ∀ s k v, set s k v = (slot k).set s v)
    (hap : keys.Pairwise fun k k' => (slot k).Apart (slot k')) : Indep keys set := by
  -- `Pairwise` has each pair in the order of the list; `Apart` is symmetric
  have hap : ∀ k ∈ keys, ∀ k' ∈ keys, k ≠ k' → (slot k).Apart (slot k') :=
    List.Pairwise.forall_of_forall_of_flip (R := fun k k' => k ≠ k' → (slot k).Apart (slot k'))
      (fun _ _ h => absurd rfl h) (hap.imp fun {k k'} h (_ : k ≠ k') => h) (hap.imp fun {k k'} h (_ : k' ≠ k) => h.symm)
  constructor
  · intro s s' k k' v v' hk hk' hne h
    rw [hset, Slot.set_ok] at h
    obtain ⟨y, _, rfl⟩ := h
    rw [hset, hset, kind_set, kind_set, (hap k hk k' hk' hne).dec_put]
  · intro s s1 s2 k k' v v' hk hk' hne h1 h2
    have A := hap k hk k' hk' hne
    rw [hset, Slot.set_ok] at h1 h2
    obtain ⟨x, hx, rfl⟩ := h1
    obtain ⟨y, hy, rfl⟩ := h2
    refine ⟨(slot k').put ((slot k).put s x) y, ?_, ?_⟩
    · rw [hset, Slot.set_ok, A.put_dec]; exact ⟨y, hy, rfl⟩
    · rw [hset, Slot.set_ok, A.dec_put]; exact ⟨x, hx, (A.put_put s x y).symm⟩

theorem indep_singleton {σ} (k : Int) (set : σ → Int → Cbor → Dec σ) : Indep [k] set :=
  have h {a b : Int} (ha : a ∈ [k]) (hb : b ∈ [k]) : a = b := (List.mem_singleton.mp ha).trans (List.mem_singleton.mp hb).symm
  ⟨fun _ _ _ _ _ _ hk hk' hne => absurd (h hk hk') hne, fun _ _ _ _ _ _ _ hk hk' hne => absurd (h hk hk') hne⟩

theorem apart_of_int_keys (keys : List Int) (a b : Cbor × Cbor) (i j : Int) (ha : keyRes a.1 = .int i) (hb : keyRes b.1 = .int j)
    (hne : i ≠ j) : Apart keys a b :=
  fun _ h1 h2 => hne ((sel_int keys ha h1).1.symm.trans (sel_int keys hb h2).1)

/-- distinct fields of a record: each pair is three `rfl`s -/
theorem comp_indep : Indep compKeys setComp := by
  refine indep_of_slots _ _ compSlot setComp_eq ?_
  simp only [compKeys, List.pairwise_cons, List.forall_mem_cons, List.not_mem_nil, false_imp_iff, implies_true, and_true,
    List.Pairwise.nil]
  and_intros
  all_goals exact ⟨fun _ _ => rfl, fun _ _ => rfl, fun _ _ _ => rfl⟩

theorem p1_indep : Indep p1Keys setP1 := by
  refine indep_of_slots _ _ p1Slot setP1_eq ?_
  simp only [p1Keys, List.pairwise_cons, List.forall_mem_cons, List.not_mem_nil, false_imp_iff, implies_true, and_true,
    List.Pairwise.nil]
  and_intros
  all_goals exact ⟨fun _ _ => rfl, fun _ _ => rfl, fun _ _ _ => rfl⟩

theorem p2_indep (u : Bytes → Dec Bytes) : Indep p2Keys (setP2 u) := by
  refine indep_of_slots _ _ (p2Slot u) (setP2_eq u) ?_
  simp only [p2Keys, List.pairwise_cons, List.forall_mem_cons, List.not_mem_nil, false_imp_iff, implies_true, and_true,
    List.Pairwise.nil]
  and_intros
  all_goals exact ⟨fun _ _ => rfl, fun _ _ => rfl, fun _ _ _ => rfl⟩

/-- no two entries select the same field of any struct (in particular: pairwise distinct integer keys) -/
def KeysApart (a b : Cbor × Cbor) : Prop := ∀ keys, Apart keys a b

theorem pairwise_apart (keys : List Int) {l : List (Cbor × Cbor)} (h : l.Pairwise KeysApart) : l.Pairwise (Apart keys) :=
  h.imp (fun hab => hab keys)

/-- **the claims decoder does not depend on the order of the map's entries** -/
theorem decodeClaimsTree_perm (u : Bytes → Dec Bytes) (extra : List Bytes) (l₁ l₂ : List (Cbor × Cbor))
    (hp : l₁.Perm l₂) (hpw : l₁.Pairwise KeysApart) :
    decodeClaimsTree u extra (.map l₁) = decodeClaimsTree u extra (.map l₂) := by
  have hsel : selectProfile (.map l₁) = selectProfile (.map l₂) :=
    structDecode_perm [265] setSelector (indep_singleton _ _) [] l₁ l₂ hp (pairwise_apart _ hpw)
  have h1 : ∀ c : Claims, structDecode p1Keys setP1 c l₁ = structDecode p1Keys setP1 c l₂ :=
    fun c => structDecode_perm p1Keys setP1 p1_indep c l₁ l₂ hp (pairwise_apart _ hpw)
  have h2 : ∀ c : Claims, structDecode p2Keys (setP2 u) c l₁ = structDecode p2Keys (setP2 u) c l₂ :=
    fun c => structDecode_perm p2Keys (setP2 u) (p2_indep u) c l₁ l₂ hp (pairwise_apart _ hpw)
  simp only [decodeClaimsTree, decodeClaimsMap, hsel, unmarshalInto, h1, h2]

theorem decodeClaims_perm (u : Bytes → Dec Bytes) (extra : List Bytes) (l₁ l₂ : List (Cbor × Cbor))
    (hp : l₁.Perm l₂) (hpw : l₁.Pairwise KeysApart) (h₁ : Cbor.OkAt {} (.map l₁) 0) :
    decodeClaims u extra (Cbor.enc (.map l₁)) = decodeClaims u extra (Cbor.enc (.map l₂)) := by
  simp only [decodeClaims, Cbor.decodeAll_enc {} _ h₁, Cbor.decodeAll_enc {} _ (Cbor.okAt_map_perm {} 0 hp h₁)]
  exact decodeClaimsTree_perm u extra l₁ l₂ hp hpw

theorem decCompElem_perm (l₁ l₂ : List (Cbor × Cbor)) (hp : l₁.Perm l₂) (hpw : l₁.Pairwise KeysApart) :
    decCompElem (.map l₁) = decCompElem (.map l₂) := by
  simp only [decCompElem, structDecode_perm compKeys setComp comp_indep emptyComp l₁ l₂ hp (pairwise_apart _ hpw)]

end Psa.Proofs.Perm
