/-
  One step of the struct decoder (`structStep`, the model of `parseMapToStruct`) by what the entry selects:
  an unusable key, no field, or a field, and then `put`.  (Namespace `Perm`: `Sel`, `put` are the notions in which order
  independence is stated; the frame lemmas and the round trip use them too.)
-/
import Psa.Model.Codec
namespace Psa.Proofs.Perm
open Psa Psa.Model

/-- one field assignment of the struct decoder: skipped when the field was already found -/
def put {σ} (set : σ → Int → Cbor → Dec σ) (s : DState σ) (k : Int) (v : Cbor) : DState σ :=
  if k ∈ s.found then s
  else match set s.val k v with
    | .ok x => { s with val := x, found := k :: s.found }
    | .err => { s with found := k :: s.found, bad := true }
    | .ood => { s with found := k :: s.found, ood := true }

/-- what an entry does: `none` = unusable key, `some none` = skipped, `some (some k)` = field `k` -/
def Sel (keys : List Int) (kv : Cbor × Cbor) : Option (Option Int) :=
  match keyRes kv.1 with
  | .bad => none
  | .int i => some (selectField keys (.int i))
  | .text t => some (selectField keys (.text t))

theorem structStep_eq {σ} (keys : List Int) (set : σ → Int → Cbor → Dec σ) (s : DState σ) (kv : Cbor × Cbor) :
    structStep keys set s kv =
      match Sel keys kv with
      | none => { s with bad := true }
      | some none => s
      | some (some k) => put set s k kv.2 := by
  unfold structStep Sel put
  cases keyRes kv.1 <;> simp only [] <;> cases selectField keys _ <;> simp only [List.contains_iff_mem] <;> rfl

theorem sel_of_key (keys : List Int) {k : Cbor} (v : Cbor) (hk : keyRes k ≠ .bad) :
    Sel keys (k, v) = some (selectField keys (keyRes k)) := by
  unfold Sel
  cases h : keyRes k with
  | bad => exact absurd h hk
  | _ => rfl

/-- an integer key selects the field of that number, if the struct has one -/
theorem sel_int (keys : List Int) {kv : Cbor × Cbor} {i k : Int} (hi : keyRes kv.1 = .int i)
    (h : Sel keys kv = some (some k)) : k = i ∧ k ∈ keys := by
  rw [Sel, hi] at h
  have h : selectField keys (.int i) = some k := Option.some.inj h
  rw [selectField] at h
  split at h
  · rename_i hc
    cases h
    exact ⟨rfl, List.contains_iff_mem.mp hc⟩
  · cases h

theorem sel_mem (keys : List Int) (kv : Cbor × Cbor) (k : Int) (h : Sel keys kv = some (some k)) : k ∈ keys := by
  cases hk : keyRes kv.1 with
  | bad =>
    rw [Sel, hk] at h
    cases h
  | int i => exact (sel_int keys hk h).2
  | text t =>
    rw [Sel, hk] at h
    exact List.mem_of_find?_eq_some (Option.some.inj h)

theorem put_found {σ} (set : σ → Int → Cbor → Dec σ) (s : DState σ) (k : Int) (v : Cbor) (j : Int) :
    j ∈ (put set s k v).found ↔ (j ∈ s.found ∨ j = k) := by
  unfold put
  by_cases hc : k ∈ s.found
  · rw [if_pos hc]
    exact (or_iff_left_of_imp fun e => e ▸ hc).symm
  · rw [if_neg hc]
    cases set s.val k v <;> exact List.mem_cons.trans or_comm

theorem put_of_mem {σ} (set : σ → Int → Cbor → Dec σ) (s : DState σ) (k : Int) (v : Cbor) (h : k ∈ s.found) :
    put set s k v = s :=
  if_pos h

theorem structStep_val {σ} (keys : List Int) (set : σ → Int → Cbor → Dec σ) (s : DState σ) (kv : Cbor × Cbor) :
    (structStep keys set s kv).val = s.val ∨ ∃ k, set s.val k kv.2 = .ok (structStep keys set s kv).val := by
  rw [structStep_eq]
  match Sel keys kv with
  | none | some none => exact Or.inl rfl
  | some (some k) =>
    simp only [put]
    by_cases h : k ∈ s.found
    · rw [if_pos h]; exact Or.inl rfl
    · rw [if_neg h]
      cases hs : set s.val k kv.2 with
      | ok x => exact Or.inr ⟨k, hs⟩
      | _ => exact Or.inl rfl

end Psa.Proofs.Perm
