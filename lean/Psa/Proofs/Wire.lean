/- The encoder emits the profile's wire format (helpers for C10, C09). -/
import Psa.Proofs.WireShape
import Psa.Proofs.Validate
namespace Psa.Proofs
open Psa Psa.Model Psa.Spec

theorem filterMap_map_some {α} (l : List α) : (l.map some).filterMap id = l := by
  rw [List.filterMap_map]; exact List.filterMap_some

theorem cOptBytes_some (b : Bytes) : cOptBytes (some b) = .bstr b := rfl

theorem comp_toCbor_eq_wire (sc : SwComp) (h : CompOK sc) : sc.toCbor = compWire sc := by
  obtain ⟨⟨mv, hmv, _⟩, ⟨sg, hsg, _⟩⟩ := h
  simp only [SwComp.toCbor, compWire, compKeyOrder, entriesOf_cons, entriesOf_nil]
  simp [compWireVal, hmv, hsg, kvOmit_some, cOptBytes_some]

theorem sw_toCbor_eq_wire (l : List SwComp) (h : ∀ sc ∈ l, CompOK sc) :
    swToCbor (.cont (some (l.map some))) = compsWire ((l.map some).filterMap id) := by
  rw [filterMap_map_some, swToCbor, compsWire, List.map_map]
  exact congrArg Cbor.arr (List.map_congr_left fun sc hsc => comp_toCbor_eq_wire sc (h sc hsc))

theorem sw_of_componentsOK (f : SwField) (h : ComponentsOK f) :
    ∃ l : List SwComp, l ≠ [] ∧ f = .cont (some (l.map some)) ∧ ∀ sc ∈ l, CompOK sc := by
  obtain ⟨l, hne, hl, hall⟩ := h
  refine ⟨l, hne, ?_, hall⟩
  match f, hl with
  | .cont (some x), hl => rw [show x = l.map some from hl]
  | .nilIface, hl | .cont none, hl => exact absurd (List.map_eq_nil_iff.mp hl.symm) hne

/-- the component field as profile 1 emits it (`enc` is `swToCbor` or `swToJson`, `w` the documented form), whenever
    its elements are well-formed components (possibly none) -/
theorem sw_omit {α : Type} {enc : SwField → α} {w : List SwComp → α}
    (henc : ∀ l : List SwComp, (∀ sc ∈ l, CompOK sc) → enc (.cont (some (l.map some))) = w ((l.map some).filterMap id))
    (sw : SwField) (h : ComponentsOK sw ∨ NoComponents sw) :
    (if sw.nilOrEmpty then none else some (enc sw)) = (if sw.elems.isEmpty then none else some (w (heldComps sw))) := by
  rcases h with hco | hnc
  · obtain ⟨l, _, rfl, hall⟩ := sw_of_componentsOK sw hco
    rw [SwField.nilOrEmpty, henc l hall]; rfl
  · rw [SwField.nilOrEmpty, List.isEmpty_iff.mpr hnc]; rfl

theorem hashLen_nonceOK (n : Bytes) (h : HashLen n.length) : nonceOK [n] = true := by
  have : 8 ≤ n.length ∧ n.length ≤ 64 := by unfold HashLen at h; omega
  simp [nonceOK, this]

-- Encoder and wire token are both the concatenation, key by key, of `kvOmit k (value)`: no case split on which optional
-- claims are set. The component list is the one claim whose two values differ in form (`sw_omit`).
theorem encode_wire (c : Claims) (h : validate c = .ok ()) : claimsToCbor c = .ok (wireToken c) := by
  have h := (validate_iff_conformant c).mp h
  obtain ⟨prof, canonical, profile, clientId, lifecycle, implId, bootSeed, certRef, sw, noSw, nonce, instId, vsi⟩ := c
  cases prof <;> simp only [Conformant] at h
  · obtain ⟨_, h2, ⟨lc, rfl, _⟩, ⟨im, rfl, _⟩, ⟨bs, rfl, _⟩, _, h7, ⟨n, rfl, _⟩, ⟨ins, rfl, _⟩, _⟩ := h
    obtain ⟨cid, rfl⟩ := Option.ne_none_iff_exists'.mp h2
    have hsw := sw_omit sw_toCbor_eq_wire sw (h7.imp And.left And.left)
    simp only [claimsToCbor, p1ToCbor, wireToken, wireEntries, keyOrder, p1KeyOrder, entriesOf_cons, entriesOf_nil]
    simp [wireVal, kvOmit_some, cOptBytes_some, hsw]
    rfl
  · obtain ⟨rfl, h2, ⟨lc, rfl, _⟩, ⟨im, rfl, _⟩, _, _, hco, ⟨n, rfl, hn⟩, ⟨ins, rfl, _⟩, _⟩ := h
    obtain ⟨cid, rfl⟩ := Option.ne_none_iff_exists'.mp h2
    obtain ⟨l, hne, rfl, hall⟩ := sw_of_componentsOK sw hco
    simp only [claimsToCbor, p2ToCbor, wireToken, wireEntries, keyOrder, p2KeyOrder, entriesOf_cons, entriesOf_nil,
      hashLen_nonceOK n hn, sw_toCbor_eq_wire l hall]
    simp [wireVal, kvOmit_some, cOptBytes_some, hne, Outcome.bind, heldComps, SwField.elems]

theorem encodeClaims_wire (c : Claims) (h : validate c = .ok ()) : encodeClaims c = .ok (wireToken c).enc := by
  rw [encodeClaims, encode_wire c h]; rfl

end Psa.Proofs
