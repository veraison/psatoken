import Psa.Model.Encoding
import Psa.Proofs.Outcome
namespace Psa.Proofs.Enc
open Psa Psa.Model.Enc

/-! ### totality: no input makes the map reader panic (C05) -/

/-- the same as `Proofs.NoPanic` (Outcome.lean), whose closure lemmas `np_ok`, `np_err`, `np_bind`, `np_map` serve both -/
def NoPanic {α} (o : Outcome α) : Prop := ∀ s, o ≠ .panic s

end Psa.Proofs.Enc

namespace Psa.Tie.Enc
open Psa Psa.Model.Enc

/-- what the additional-information reader must do, without partial operations -/
def paiSpec (ai : Nat) (data : Bytes) : Outcome (Nat × Bytes) :=
  if ai < 24 then .ok (ai, data)
  else if ai = 24 then (match data with | [] => .err eOther | b :: r => .ok (b.toNat, r))
  else if ai = 25 then (if data.length < 2 then .err eOther else .ok (beNat (data.take 2), data.drop 2))
  else if ai = 26 then (if data.length < 4 then .err eOther else .ok (beNat (data.take 4), data.drop 4))
  else if ai = 31 then .ok (0, data)
  else .err eOther

/-- the hand model of `processAdditionalInfo` meets the specification: its index and slice expressions never fault -/
theorem model_pai_spec (ai : Nat) (data : Bytes) : processAdditionalInfo ai data = paiSpec ai data := by
  unfold processAdditionalInfo paiSpec
  by_cases h1 : ai < 24
  · simp [h1]
  by_cases h2 : ai < 28
  · have : ai = 24 ∨ ai = 25 ∨ ai = 26 ∨ ai = 27 := by omega
    rcases this with rfl | rfl | rfl | rfl
    · cases data <;> simp [sliceFrom, idx, Outcome.bind, eOther]
    · by_cases hl : data.length < 2
      · simp [hl]
      · simp [hl, sliceTo, sliceFrom, Outcome.bind, Nat.le_of_not_lt hl]
    · by_cases hl : data.length < 4
      · simp [hl]
      · simp [hl, sliceTo, sliceFrom, Outcome.bind, Nat.le_of_not_lt hl]
    · simp
  · by_cases h3 : ai = 31
    · subst h3; simp
    · have : ¬ ai = 24 ∧ ¬ ai = 25 ∧ ¬ ai = 26 := by omega
      simp [h1, h2, h3, this]

theorem paiSpec_cases (ai : Nat) (data : Bytes) :
    paiSpec ai data = .err eOther ∨ ∃ n k, paiSpec ai data = .ok (n, data.drop k) := by
  unfold paiSpec
  by_cases h1 : ai < 24
  · rw [if_pos h1]; exact .inr ⟨_, 0, rfl⟩
  rw [if_neg h1]
  by_cases h2 : ai = 24
  · rw [if_pos h2]
    cases data with
    | nil => exact .inl rfl
    | cons b r => exact .inr ⟨_, 1, rfl⟩
  rw [if_neg h2]
  by_cases h3 : ai = 25
  · rw [if_pos h3]
    by_cases hl : data.length < 2
    · rw [if_pos hl]; exact .inl rfl
    · rw [if_neg hl]; exact .inr ⟨_, 2, rfl⟩
  rw [if_neg h3]
  by_cases h4 : ai = 26
  · rw [if_pos h4]
    by_cases hl : data.length < 4
    · rw [if_pos hl]; exact .inl rfl
    · rw [if_neg hl]; exact .inr ⟨_, 4, rfl⟩
  rw [if_neg h4]
  by_cases h5 : ai = 31
  · rw [if_pos h5]; exact .inr ⟨_, 0, rfl⟩
  · rw [if_neg h5]; exact .inl rfl

end Psa.Tie.Enc

namespace Psa.Proofs.Enc
open Psa Psa.Model.Enc

theorem pai_cases (ai : Nat) (data : Bytes) : processAdditionalInfo ai data = .err eOther ∨
    ∃ n k, processAdditionalInfo ai data = .ok (n, data.drop k) :=
  Tie.Enc.model_pai_spec ai data ▸ Tie.Enc.paiSpec_cases ai data

theorem np_add (m : OMap) (k : Int) (v : Bytes) : NoPanic (m.add k v) := by
  unfold OMap.add; split
  · exact np_err _
  · exact np_ok _

/-- one key/value step, once for every input: it rejects, or it has read a key item and a value item and `Add`s the
    value's bytes under some key -/
theorem ukv_cases (rest : Bytes) (m : OMap) :
    (∃ e, unmarshalKeyValue rest m = .err e) ∨
    ∃ kraw kt r1 raw vt r k, rawFirst rest = some (kraw, kt, r1) ∧ rawFirst r1 = some (raw, vt, r) ∧
      unmarshalKeyValue rest m = (m.add k raw).bind fun m' => .ok (r, m') := by
  unfold unmarshalKeyValue
  cases hk : rawFirst rest with
  | none => exact .inl ⟨_, rfl⟩
  | some p =>
    obtain ⟨kraw, kt, r1⟩ := p
    dsimp only
    split
    · exact .inl ⟨_, rfl⟩
    · cases hv : rawFirst r1 with
      | none => left; split <;> exact ⟨_, rfl⟩
      | some q =>
        obtain ⟨raw, vt, r⟩ := q
        split
        · exact .inr ⟨kraw, kt, r1, raw, vt, r, _, rfl, hv, rfl⟩
        · exact .inr ⟨kraw, kt, r1, raw, vt, r, 0, rfl, hv, rfl⟩
        · exact .inl ⟨_, rfl⟩

theorem np_ukv (rest : Bytes) (m : OMap) : NoPanic (unmarshalKeyValue rest m) := by
  rcases ukv_cases rest m with ⟨e, h⟩ | ⟨_, _, _, raw, _, r, k, _, _, h⟩ <;> rw [h]
  · exact np_err e
  · exact np_bind _ _ (np_add m k raw) fun _ _ => np_ok _

theorem np_readEntries : ∀ (n : Nat) (rest : Bytes) (m : OMap), NoPanic (readEntries n rest m)
  | 0, _, _ => np_ok _
  | n + 1, rest, m => by
    simp only [readEntries]
    exact np_bind _ _ (np_ukv rest m) (fun a _ => np_readEntries n a.1 a.2)

theorem np_readUntilBreak : ∀ (fuel : Nat) (rest : Bytes) (m : OMap), NoPanic (readUntilBreak fuel rest m)
  | 0, _, _ => np_err _
  | fuel + 1, rest, m => by
    simp only [readUntilBreak]
    split
    · exact np_err _
    · split
      · exact np_ok _
      · exact np_bind _ _ (np_ukv _ m) (fun a _ => np_readUntilBreak fuel a.1 a.2)

/-- the header analysis of `FromCBOR`, once for every input: it rejects, or runs one of the two entry loops on a
    proper suffix of the input -/
theorem fromCBOR_cases (data : Bytes) :
    fromCBOR data = .err eOther ∨
    (∃ n rest, rest.length < data.length ∧
      fromCBOR data = (readEntries n rest OMap.empty).bind fun p => .ok p.2) ∨
    (∃ rest, rest.length < data.length ∧ fromCBOR data = readUntilBreak (rest.length + 1) rest OMap.empty) := by
  have loop : ∀ (mt ai : Nat) (rest : Bytes), rest.length < data.length →
      ∀ o, o = (if mt ≠ 5 then Outcome.err eOther else
        (processAdditionalInfo ai rest).bind fun (mapLen, rest) =>
          if ai ≠ 31 then (readEntries mapLen rest OMap.empty).bind fun (_, m) => .ok m
          else readUntilBreak (rest.length + 1) rest OMap.empty) →
      o = .err eOther ∨
      (∃ n rest, rest.length < data.length ∧ o = (readEntries n rest OMap.empty).bind fun p => .ok p.2) ∨
      (∃ rest, rest.length < data.length ∧ o = readUntilBreak (rest.length + 1) rest OMap.empty) := by
    intro mt ai rest hl o ho
    by_cases hmt : mt ≠ 5
    · rw [if_pos hmt] at ho; exact .inl ho
    rw [if_neg hmt] at ho
    rcases pai_cases ai rest with e | ⟨n, k, e⟩ <;> rw [e] at ho
    · exact .inl ho
    have hk : (rest.drop k).length < data.length := by simp; omega
    by_cases hai : ai ≠ 31
    · exact .inr (.inl ⟨n, _, hk, by rw [ho]; simp only [Outcome.bind, if_pos hai]⟩)
    · exact .inr (.inr ⟨_, hk, by rw [ho]; simp only [Outcome.bind, if_neg hai]⟩)
  cases data with
  | nil => exact .inl rfl
  | cons b r =>
    unfold fromCBOR
    simp only [List.length_cons, Nat.succ_ne_zero, if_false, idx, List.getElem?_cons_zero, sliceFrom, Outcome.bind,
      List.drop_succ_cons, List.drop_zero, Nat.le_add_left, if_true]
    by_cases h6 : b.toNat / 32 = 6
    · simp only [if_pos h6]
      rcases pai_cases (b.toNat % 32) r with e | ⟨n, k, e⟩ <;> rw [e]
      · exact .inl rfl
      cases hr : r.drop k with
      | nil => exact .inl (by simp)
      | cons b2 r2 =>
        have : r2.length < (b :: r).length := by
          have := congrArg List.length hr; simp at this ⊢; omega
        refine loop (b2.toNat / 32) (b2.toNat % 32) r2 this _ ?_
        simp [Outcome.bind]
    · simp only [if_neg h6]
      exact loop _ _ r (by simp) _ rfl
/-- `FromCBOR` never panics, whatever the bytes: every index and slice is guarded -/
theorem fromCBOR_total (data : Bytes) : NoPanic (fromCBOR data) := by
  rcases fromCBOR_cases data with h | ⟨n, rest, _, h⟩ | ⟨rest, _, h⟩ <;> rw [h]
  · exact np_err _
  · exact np_bind _ _ (np_readEntries _ _ _) (fun _ _ => np_ok _)
  · exact np_readUntilBreak _ _ _

end Psa.Proofs.Enc
