/-
  The documented JSON form of a claims-set (`Spec.jsonDoc`) lies in the domain of the text-layer round trip
  (`JText.WF`): numbers are integers, member names are ASCII, byte strings are base64 (ASCII), text claims are
  valid UTF-8 when the claims-set's text is (`RT.TextOK`).  Hence `parseDoc (render (jsonDoc c)) = some (jsonDoc c)`.
-/
import Psa.Proofs.JsonText
import Psa.Proofs.JsonRoundTripCore
namespace Psa.Proofs.JTC
open Psa Psa.Model Psa.Spec Psa.Proofs.RT Psa.Model.JText

theorem wfList_iff (l : List Json) : WFList l = true ↔ ∀ x ∈ l, WF x = true := by
  induction l with
  | nil => simp [WFList]
  | cons x xs ih => simp [WFList, ih]

theorem wfMembers_iff (l : List (Bytes × Json)) :
    WFMembers l = true ↔ ∀ m ∈ l, validUTF8 m.1 = true ∧ WF m.2 = true := by
  induction l with
  | nil => simp [WFMembers]
  | cons m ms ih =>
    obtain ⟨k, v⟩ := m
    simp [WFMembers, ih, and_assoc]

theorem wf_of_map {α : Type} {o : Option α} {g : α → Json} {v : Json} (h : ∀ a, o = some a → WF (g a) = true)
    (hv : o.map g = some v) : WF v = true := by
  obtain ⟨a, ha, rfl⟩ := Option.map_eq_some_iff.mp hv
  exact h a ha

theorem wf_arr_map {α : Type} {g : α → Json} {l : List α} (h : ∀ a ∈ l, WF (g a) = true) : WF (.arr (l.map g)) = true := by
  simp only [WF, wfList_iff, List.mem_map]
  rintro _ ⟨a, ha, rfl⟩
  exact h a ha

theorem wf_jBytes (b : Bytes) : WF (jBytes b) = true :=
  validUTF8_ascii _ (b64enc_ascii b)

theorem name_valid (p : Prof) (f : JField) (hf : f ∈ JField.of p) : validUTF8 (f.name p) = true := by
  apply validUTF8_ascii
  cases p
  · exact Proofs.JRT.p1_names_good.2 _ (List.mem_map_of_mem hf)
  · exact Proofs.JRT.p2_names_good.2 _ (List.mem_map_of_mem hf)

theorem cname_valid (f : CField) (hf : f ∈ CField.all) : validUTF8 f.name = true :=
  validUTF8_ascii _ (Proofs.JRT.comp_names_good.2 _ (List.mem_map_of_mem hf))

theorem wf_compJson (sc : SwComp) (h : CompTextOK sc) : WF (compJson sc) = true := by
  obtain ⟨h1, h2, h3⟩ := h
  simp only [compJson, WF, wfMembers_iff, List.mem_filterMap, Option.map_eq_some_iff]
  rintro _ ⟨f, hf, v, hv, rfl⟩
  refine ⟨cname_valid f hf, ?_⟩
  cases f
  · exact wf_of_map h1 hv
  · exact wf_of_map (fun b _ => wf_jBytes b) hv
  · exact wf_of_map h2 hv
  · exact wf_of_map (fun b _ => wf_jBytes b) hv
  · exact wf_of_map h3 hv

theorem wf_jsonVal (c : Claims) (ht : TextOK c) (f : JField) (v : Json) (hv : jsonVal c f = some v) : WF v = true := by
  obtain ⟨t1, t2, t3, t4⟩ := ht
  cases f
  · rw [Proofs.JRT.jv_profile] at hv
    exact wf_of_map (g := .str) (fun s hs => t1 s (profStr_some.mp hs)) hv
  · exact wf_of_map (fun _ _ => rfl) hv
  · exact wf_of_map (fun _ _ => rfl) hv
  · exact wf_of_map (fun b _ => wf_jBytes b) hv
  · exact wf_of_map (fun b _ => wf_jBytes b) hv
  · exact wf_of_map t2 hv
  · simp only [jsonVal] at hv
    split at hv <;> cases hv
    exact wf_arr_map fun sc hsc => wf_compJson sc (t4 sc hsc)
  · exact wf_of_map (fun _ _ => rfl) hv
  · rw [Proofs.JRT.jv_nonce2] at hv
    rcases nonceForm_some hv with ⟨b, _, rfl⟩ | ⟨l, _, rfl⟩
    · exact wf_jBytes b
    · exact wf_arr_map fun b _ => wf_jBytes b
  · exact wf_of_map (fun b _ => wf_jBytes b) hv
  · exact wf_of_map t3 hv

theorem wf_jsonDoc (c : Claims) (ht : TextOK c) : WF (jsonDoc c) = true := by
  simp only [jsonDoc, WF, jsonMembers, wfMembers_iff, List.mem_filterMap, Option.map_eq_some_iff]
  rintro _ ⟨f, hf, v, hv, rfl⟩
  exact ⟨name_valid c.prof f hf, wf_jsonVal c ht f v hv⟩

theorem parseDoc_render_jsonDoc (c : Claims) (ht : TextOK c) : parseDoc (render (jsonDoc c)) = some (jsonDoc c) :=
  parseDoc_render _ (wf_jsonDoc c ht)

end Psa.Proofs.JTC
