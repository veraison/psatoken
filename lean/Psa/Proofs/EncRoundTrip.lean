/- `populate ∘ serialize` and the serialiser's output as one plain map, CBOR (C15). -/
import Psa.Proofs.EncShape
namespace Psa.Proofs.Enc
open Psa Psa.Model Psa.Model.Enc

/-- every key of the shape is an `int64` (Go `int`) -/
def KeysInt64 (sh : Shape) : Prop := ∀ f ∈ specs sh, Int64 f.key

/-- the fields that are written: all but nil `omitempty` ones, in order -/
def present : List FieldSpec → List (Option FVal) → List (Int × Cbor)
  | f :: fs, v :: vs => if f.omitempty && v.isNone then present fs vs else (f.key, encFVal v) :: present fs vs
  | _, _ => []

theorem entries_present : ∀ (fs : List FieldSpec) (vs : List (Option FVal)),
    entries FieldSpec.key FieldSpec.omitempty (fun v => (encFVal v).enc) fs vs =
      (present fs vs).map (fun p => (p.1, p.2.enc))
  | [], _ => rfl
  | _ :: _, [] => rfl
  | f :: fs, v :: vs => by
    rw [entries, entries_present fs vs, present]
    split <;> rfl

/-- the map a struct is serialised into: `Fields` holds the present fields, `Keys` their keys -/
theorem serializeInto_empty (sh : Shape) (v : SVal) (hf : Fits sh v) (hn : ((specs sh).map (·.key)).Nodup) :
    ∃ m, serializeInto sh v OMap.empty = .ok m ∧ OMInv m ∧ m.keys.length ≤ (specs sh).length ∧
      m.fields = entries FieldSpec.key FieldSpec.omitempty (fun v => (encFVal v).enc) (specs sh) (flat v) := by
  have hsub := entries_keys_sublist (key := FieldSpec.key) (omitempty := FieldSpec.omitempty)
    (enc := fun v => (encFVal v).enc) (specs sh) (flat v)
  exact ⟨_, by rw [serializeInto_flat sh v _ hf]; exact cbor.addFields_eq (hsub.nodup hn),
    ⟨rfl, hsub.nodup hn⟩, by simpa [OMap.empty] using hsub.length_le, rfl⟩

/-- **C15 round trip**: for every struct shape following the convention (distinct integer keys across the outer and all
    embedded structs, fewer than 2³² of them) and every value of it — any subset of optional fields present, including
    none at all — populating a fresh struct from the serialiser's output gives back the value. -/
theorem populate_serialize (sh : Shape) (v : SVal) (hf : Fits sh v) (hn : ((specs sh).map (·.key)).Nodup)
    (hk : KeysInt64 sh) (hl : (specs sh).length < 2 ^ 32) :
    ∃ bytes, serialize sh v = .ok bytes ∧ populate sh bytes = .ok (.ok v) := by
  have ht := fits_typed sh v hf
  obtain ⟨m, hser, hi, hlen, hfld⟩ := serializeInto_empty sh v hf hn
  refine ⟨m.toCBOR, by simp [serialize, hser, Outcome.map], ?_⟩
  have hraw : RawOK m.fields := by
    rw [hfld]
    constructor <;> intro p hp <;> obtain ⟨q, hq, rfl⟩ := mem_entries hp
    · exact hk q.1 (List.of_mem_zip hq).1
    · have hty := typedAll_zip ht q hq
      exact ⟨encFVal q.2, rfl, (encFVal_ok q.1 q.2 hty).1, (encFVal_ok q.1 q.2 hty).2⟩
  obtain ⟨m', e1⟩ := cbor.popFields_ok (typedAll_length ht) hn (typedAll_dec ht) (cbor.get_entries hn hfld)
  simp [populate, fromCBOR_toCBOR m hi hraw (by omega), Outcome.map, populateFrom_flat sh v m m' hf e1, Dec.map, Dec.bind]

theorem encFields_pairs : ∀ (kts : List (Int × Cbor)),
    encFields (kts.map (fun p => (p.1, p.2.enc))) = Cbor.encPairs (kts.map (fun p => (cInt p.1, p.2)))
  | [] => rfl
  | (k, t) :: rest => by simp [encFields, Cbor.encPairs, encFields_pairs rest]

/-- **C15, matches the plain codec / one map / stable order**: the serialiser's output is exactly the CBOR encoding of one
    map whose entries are the present fields — outer struct's first, then each embedded struct's — under their integer
    keys, in declaration order. For a struct without embedding this is what the plain marshaller emits. -/
theorem serialize_is_plain_map (sh : Shape) (v : SVal) (bytes : Bytes) (hf : Fits sh v)
    (hn : ((specs sh).map (·.key)).Nodup) (hl : (specs sh).length < 2 ^ 32) (h : serialize sh v = .ok bytes) :
    bytes = (Cbor.map ((present (specs sh) (flat v)).map (fun p => (cInt p.1, p.2)))).enc := by
  obtain ⟨m, hser, hi, hlen, hfld⟩ := serializeInto_empty sh v hf hn
  simp only [serialize, hser, Outcome.map, Outcome.ok.injEq] at h
  rw [← h, toCBOR_eq m hi (by rw [← List.length_map (f := (·.1)), ← hi.agree]; omega), hfld, entries_present, encFields_pairs]
  simp [Cbor.enc]

end Psa.Proofs.Enc
