/- `Dec` plumbing: when a bind or a map of a typed decode succeeds. -/
import Psa.Model.Codec
namespace Psa.Proofs
open Psa Psa.Model

theorem Dec.bind_eq_ok {α β} {x : Dec α} {f : α → Dec β} {b : β} : x.bind f = .ok b ↔ ∃ a, x = .ok a ∧ f a = .ok b := by
  cases x <;> simp [Dec.bind]

theorem Dec.map_eq_ok {α β} {x : Dec α} {f : α → β} {b : β} : x.map f = .ok b ↔ ∃ a, x = .ok a ∧ f a = b := by
  cases x <;> simp [Dec.map, Dec.bind]

end Psa.Proofs
