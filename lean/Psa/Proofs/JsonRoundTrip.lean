/- decode ∘ encode for JSON, from the walks of `JsonRoundTripCore.lean`: the register search on the library's own document,
   then CBOR → claims → JSON → claims → CBOR (helpers for C12, C07). -/
import Psa.Proofs.JsonRoundTripCore
import Psa.Proofs.JsonShape
import Psa.Proofs.RoundTrip
import Psa.Proofs.Registry
namespace Psa.Proofs.JRT
open Psa Psa.Model Psa.Spec Psa.Proofs.RT Psa.Proofs.Reg

theorem p1Name_ne_p2Name : p1Name ≠ p2Name := profileNames_distinct.2.2

theorem dispatchStep_hit (ms : List (Bytes × Json)) (e : RegEntry) (h : entryMatches ms e = true) :
    dispatchStep ms .none e = .found e := by
  simp [dispatchStep, h]

theorem dispatchStep_again (ms : List (Bytes × Json)) (f e : RegEntry) (h : entryMatches ms e = true)
    (hn : f.profName = e.profName) : dispatchStep ms (.found f) e = .found e := by
  simp [dispatchStep, h, hn]

-- The fields of the entry are variables and every use below names them: were an entry to be found by unification,
-- `⟨..⟩.jsonTag =?= jP1Profile` would have Lean evaluate the string behind the member name.
theorem entryMatches_unset (ms : List (Bytes × Json)) (k n t : Bytes) (en : Entry)
    (h : lookupMember ms t = none ∨ lookupMember ms t = some .null) : entryMatches ms ⟨k, n, t, en⟩ = false := by
  rcases h with h | h <;> simp only [entryMatches, h]

theorem entryMatches_name (ms : List (Bytes × Json)) (k n t : Bytes) (en : Entry)
    (h : lookupMember ms t = some (.str n)) : entryMatches ms ⟨k, n, t, en⟩ = true := by
  simp only [entryMatches, h, beq_self_eq_true]

theorem decodeClaimsJSON_default (u : Bytes → Dec Bytes) (ms : List (Bytes × Json)) (hc : namesClean ms = true)
    (h1 : lookupMember ms jP1Profile = none ∨ lookupMember ms jP1Profile = some .null)
    (h2 : lookupMember ms jP2Profile = none ∨ lookupMember ms jP2Profile = some .null) :
    decodeClaimsJSON u builtinRegistry (.obj ms) = unmarshalJSONInto u (Claims.new .p1) (.obj ms) := by
  have m0 := entryMatches_unset ms [] p1Name jP1Profile .p1 h1
  have m1 := entryMatches_unset ms p1Name p1Name jP1Profile .p1 h1
  have m2 := entryMatches_unset ms p2Name p2Name jP2Profile .p2 h2
  have hd : dispatchJSON builtinRegistry ms = .none := by
    rw [dispatchJSON, builtinRegistry, List.foldl_cons, List.foldl_cons, List.foldl_cons, List.foldl_nil,
      dispatchStep_miss ms .none _ m0, dispatchStep_miss ms .none _ m1, dispatchStep_miss ms .none _ m2]
  have hp : profilePresent builtinRegistry ms = false := by
    rcases h1 with h1 | h1 <;> rcases h2 with h2 | h2 <;> simp [profilePresent, builtinRegistry, h1, h2]
  rw [decodeClaimsJSON, hc, hd]
  simp only [hp, Bool.not_true, Bool.false_eq_true, if_false]
  rfl

theorem decodeClaimsJSON_p1 (u : Bytes → Dec Bytes) (ms : List (Bytes × Json)) (hc : namesClean ms = true)
    (h1 : lookupMember ms jP1Profile = some (.str p1Name)) (h2 : lookupMember ms jP2Profile = none) :
    decodeClaimsJSON u builtinRegistry (.obj ms) = unmarshalJSONInto u (Claims.new .p1) (.obj ms) := by
  have m0 := entryMatches_name ms [] p1Name jP1Profile .p1 h1
  have m1 := entryMatches_name ms p1Name p1Name jP1Profile .p1 h1
  have m2 := entryMatches_unset ms p2Name p2Name jP2Profile .p2 (.inl h2)
  have hd : dispatchJSON builtinRegistry ms = .found ⟨p1Name, p1Name, jP1Profile, .p1⟩ := by
    rw [dispatchJSON, builtinRegistry, List.foldl_cons, List.foldl_cons, List.foldl_cons, List.foldl_nil,
      dispatchStep_hit ms _ m0, dispatchStep_again ms ⟨[], p1Name, jP1Profile, .p1⟩ _ m1 rfl, dispatchStep_miss ms _ _ m2]
  rw [decodeClaimsJSON, hc, hd]; rfl

theorem decodeClaimsJSON_p2 (u : Bytes → Dec Bytes) (ms : List (Bytes × Json)) (hc : namesClean ms = true)
    (h1 : lookupMember ms jP1Profile = none) (h2 : lookupMember ms jP2Profile = some (.str p2Name)) :
    decodeClaimsJSON u builtinRegistry (.obj ms) = unmarshalJSONInto u (Claims.new .p2) (.obj ms) := by
  have m0 := entryMatches_unset ms [] p1Name jP1Profile .p1 (.inl h1)
  have m1 := entryMatches_unset ms p1Name p1Name jP1Profile .p1 (.inl h1)
  have m2 := entryMatches_name ms p2Name p2Name jP2Profile .p2 h2
  have hd : dispatchJSON builtinRegistry ms = .found ⟨p2Name, p2Name, jP2Profile, .p2⟩ := by
    rw [dispatchJSON, builtinRegistry, List.foldl_cons, List.foldl_cons, List.foldl_cons, List.foldl_nil,
      dispatchStep_miss ms .none _ m0, dispatchStep_miss ms .none _ m1, dispatchStep_hit ms _ m2]
  rw [decodeClaimsJSON, hc, hd]; rfl

theorem decodeClaimsJSON_jsonDoc (u : Bytes → Dec Bytes) (c : Claims) (hc : Conformant c) (hbi : Builtin c) :
    decodeClaimsJSON u builtinRegistry (jsonDoc c) = unmarshalJSONInto u (Claims.new c.prof) (jsonDoc c) := by
  unfold Conformant at hc
  rw [jsonDoc_eq]
  rcases hbi with ⟨hp, hcan⟩ | ⟨hp, hcan, _⟩ <;> rw [hp] at hc ⊢
  · have hclean := namesClean_members (JField.of .p1) (JField.name .p1) (jsonVal c) p1_names_good
    have L1 : lookupMember (membersOf (JField.of .p1) (JField.name .p1) (jsonVal c)) jP1Profile = _ :=
      (lookup_members _ _ _ p1_names_good.nodup .profile (by decide)).trans (jv_profile c)
    have L2 := lookup_absent (JField.of .p1) (JField.name .p1) (jsonVal c) jP2Profile names_table.2.2.2.1
    rcases hc.1 with h | h
    · exact decodeClaimsJSON_default u _ hclean (.inl (by rw [L1, h]; rfl)) (.inl L2)
    · exact decodeClaimsJSON_p1 u _ hclean (by rw [L1, h, hcan]; rfl) L2
  · have hclean := namesClean_members (JField.of .p2) (JField.name .p2) (jsonVal c) p2_names_good
    have L2 : lookupMember (membersOf (JField.of .p2) (JField.name .p2) (jsonVal c)) jP2Profile = _ :=
      (lookup_members _ _ _ p2_names_good.nodup .profile (by decide)).trans (jv_profile c)
    have L1 := lookup_absent (JField.of .p2) (JField.name .p2) (jsonVal c) jP1Profile names_table.2.2.2.2
    exact decodeClaimsJSON_p2 u _ hclean L1 (by rw [L2, hc.1, hcan]; rfl)

/-- the typed decoder on the library's own document: the stores of `p1_json_decode` / `p2_json_decode` -/
theorem unmarshalJSONInto_jsonDoc (u : Bytes → Dec Bytes) (c : Claims) (hc : Conformant c) (hb : ClaimsBounded c)
    (hbi : Builtin c) (hu : u p2Name = .ok p2Name) :
    unmarshalJSONInto u (Claims.new c.prof) (jsonDoc c) = .ok (rt c) := by
  rcases hbi with ⟨hp, hcan⟩ | ⟨hp, hcan, hns⟩
  · obtain ⟨n, hn, _⟩ := (conformant_iff_all c).mp hc .nonce
    rw [hp, ← st1_rt c hp hcan hc]
    exact p1_json_decode u c hp hb (.inr ⟨n, hn⟩)
  · rw [hp, ← st2_rt c hp hcan hns hc]
    exact p2_json_decode u c hp hb (urlNorm_profile u c hp hcan hc hu)

/-- **JSON decode ∘ encode** (tree level): for every valid claims-set of a built-in profile, the dispatching JSON decoder
    applied to the library's own JSON form returns the claims-set itself, up to the component container -/
theorem json_decode_encode (u : Bytes → Dec Bytes) (c : Claims) (hv : validate c = .ok ()) (hb : ClaimsBounded c)
    (hbi : Builtin c) (hu : u p2Name = .ok p2Name) :
    ∃ j, encodeJSON c = .ok j ∧ decodeClaimsJSON u builtinRegistry j = .ok (rt c) :=
  have hc : Conformant c := (validate_iff_conformant c).mp hv
  ⟨jsonDoc c, encode_json c hv, (decodeClaimsJSON_jsonDoc u c hc hbi).trans (unmarshalJSONInto_jsonDoc u c hc hb hbi hu)⟩

theorem rtSw_congr (f g : SwField) (h : g.elems = f.elems) : rtSw g = rtSw f := by
  unfold rtSw heldComps; rw [h]

/-- **CBOR → claims → JSON → claims → CBOR reproduces the original bytes**, and the JSON leg preserves every getter -/
theorem cbor_json_cbor (u : Bytes → Dec Bytes) (extra : List Bytes) (c : Claims) (hv : validate c = .ok ())
    (hb : ClaimsBounded c) (ht : TextOK c) (hbi : Builtin c) (hu : u p2Name = .ok p2Name) :
    ∃ b c1 j c2, encodeClaims c = .ok b ∧ decodeClaims u extra b = .ok c1 ∧ encodeJSON c1 = .ok j ∧
      decodeClaimsJSON u builtinRegistry j = .ok c2 ∧ encodeClaims c2 = .ok b ∧ ∀ g, Model.get g c2 = Model.get g c := by
  obtain ⟨b, h1, h2, h3, h4, h5⟩ := decode_encode_rt u extra c hv hb ht hbi hu
  have hc : Conformant c := (validate_iff_conformant c).mp hv
  have hel : (rtSw c.sw).elems = c.sw.elems := rtSw_elems c.sw (conformant_no_nil c hc)
  -- only the last two conjuncts speak of the component field, and of its elements only
  have hb1 : ClaimsBounded (rt c) := by
    unfold ClaimsBounded at hb ⊢
    rwa [show (rt c).sw.elems = c.sw.elems from hel]
  obtain ⟨j, hj1, hj2⟩ := json_decode_encode u (rt c) h4 hb1 hbi hu
  have hrr : rt (rt c) = rt c := congrArg (fun f => ({ c with sw := f } : Claims)) (rtSw_congr c.sw (rtSw c.sw) hel)
  exact ⟨b, rt c, j, rt c, h1, h2, hj1, hrr ▸ hj2, h5, h3⟩

end Psa.Proofs.JRT
