/- Invariants of the struct decoder and of dispatch (helpers for C04, C07, C16, C20). -/
import Psa.Proofs.Validate
import Psa.Proofs.Slots
import Psa.Proofs.StructStep
import Psa.Proofs.Dec
namespace Psa.Proofs
open Psa Psa.Model Psa.Spec

theorem profileNames_distinct : p1Name ≠ [] ∧ p2Name ≠ [] ∧ p1Name ≠ p2Name := by decide

theorem lookupProfile_p1 (extra : List Bytes) (name : Bytes) (h : name = [] ∨ name = p1Name) :
    lookupProfile extra name = some .p1 := by
  simp [lookupProfile, h]

theorem lookupProfile_p2 (extra : List Bytes) : lookupProfile extra p2Name = some .p2 := by
  obtain ⟨_, h2, h12⟩ := profileNames_distinct
  simp [lookupProfile, h2, Ne.symm h12]

theorem lookupProfile_none (extra : List Bytes) (name : Bytes)
    (h : name ≠ [] ∧ name ≠ p1Name ∧ name ≠ p2Name ∧ name ∉ extra) : lookupProfile extra name = none := by
  simp [lookupProfile, h]

theorem lookupProfile_builtin (extra : List Bytes) (name : Bytes) :
    (lookupProfile extra name = some .p1 → name = [] ∨ name = p1Name) ∧
    (lookupProfile extra name = some .p2 → name = p2Name) := by
  by_cases h1 : name = [] ∨ name = p1Name
  · rw [lookupProfile_p1 extra name h1]; exact ⟨fun _ => h1, nofun⟩
  by_cases h2 : name = p2Name
  · rw [h2, lookupProfile_p2]; exact ⟨nofun, fun _ => rfl⟩
  have : lookupProfile extra name = if extra.contains name then some .other else none := by
    simp [lookupProfile, h1, h2]
  rw [this]; split <;> exact ⟨nofun, nofun⟩

theorem getProfile_of_ok (c : Claims) (h : ClaimOK .profile c) : getProfile c = .ok (.text c.canonical) := by
  unfold getProfile
  cases hp : c.prof <;> simp only [ClaimOK, hp] at h ⊢
  · rcases h with h | h <;> simp [h]
  · simp [h]

theorem structDecode_inv {σ} (P : σ → Prop) (keys : List Int) (set : σ → Int → Cbor → Dec σ)
    (hset : ∀ s k v s', set s k v = .ok s' → P s → P s') (init : σ) (hi : P init)
    (kvs : List (Cbor × Cbor)) (r : σ) (h : structDecode keys set init kvs = .ok r) : P r := by
  have hk : P (kvs.foldl (structStep keys set) { val := init, found := [], bad := false, ood := false }).val :=
    List.foldlRecOn (motive := fun s : DState σ => P s.val) kvs _ hi fun s hs kv _ => by
      rcases Perm.structStep_val keys set s kv with e | ⟨k, e⟩
      · rwa [e]
      · exact hset _ _ _ _ e hs
  unfold structDecode at h
  dsimp only at h
  split at h
  · cases h
  · split at h
    · cases h
    · cases h; exact hk

theorem structDecode_keeps {σ α} (f : σ → α) (keys : List Int) (set : σ → Int → Cbor → Dec σ) (slot : Int → Slot σ)
    (hset : ∀ s k v, set s k v = (slot k).set s v) (hf : ∀ k, (slot k).Keeps f)
    (init : σ) (kvs : List (Cbor × Cbor)) (r : σ) (h : structDecode keys set init kvs = .ok r) : f r = f init :=
  structDecode_inv (f · = f init) keys set
    (fun s k v s' hs hP => by
      rw [hset, Slot.set_ok] at hs
      obtain ⟨x, _, rfl⟩ := hs
      exact (hf k s x).trans hP)
    init rfl kvs r h

theorem structDecode_skip {σ} (keys : List Int) (set : σ → Int → Cbor → Dec σ) (init : σ) (kvs : List (Cbor × Cbor))
    (h : ∀ kv ∈ kvs, Perm.Sel keys kv = some none) : structDecode keys set init kvs = .ok init := by
  unfold structDecode
  have hfold : ∀ s : DState σ, kvs.foldl (structStep keys set) s = s := fun s =>
    List.foldlRecOn (motive := (· = s)) kvs _ rfl fun s' hs kv hkv => by
      rw [hs, Perm.structStep_eq, h kv hkv]
  rw [hfold]
  rfl

theorem p1Slot_frame (k : Int) : (p1Slot k).Keeps fun c => (c.prof, c.canonical) := by
  unfold p1Slot
  repeat' apply Slot.keeps_ite
  all_goals exact fun _ _ => rfl

theorem p2Slot_frame (u : Bytes → Dec Bytes) (k : Int) : (p2Slot u k).Keeps fun c => (c.prof, c.canonical) := by
  unfold p2Slot
  repeat' apply Slot.keeps_ite
  all_goals exact fun _ _ => rfl

theorem unmarshalInto_frame (u : Bytes → Dec Bytes) (c0 : Claims) (t : Cbor) (c : Claims)
    (h : unmarshalInto u c0 t = .ok c) : (c.prof, c.canonical) = (c0.prof, c0.canonical) := by
  simp only [unmarshalInto] at h
  split at h
  · split at h
    · exact structDecode_keeps _ p1Keys setP1 p1Slot setP1_eq p1Slot_frame { c0 with profile := none } _ c h
    · exact structDecode_keeps _ p2Keys (setP2 u) (p2Slot u) (setP2_eq u) (p2Slot_frame u) { c0 with profile := none } _ c h
  · cases h; rfl
  · cases h; rfl
  · cases h
  · cases h

theorem decodeClaimsTree_cases (u : Bytes → Dec Bytes) (extra : List Bytes) (t : Cbor) :
    (∃ kvs, t = .map kvs) ∧ decodeClaimsTree u extra t = decodeClaimsMap u extra t ∨
    (∀ kvs, t ≠ .map kvs) ∧ decodeClaimsTree u extra t = .err := by
  cases t with
  | map kvs => exact .inl ⟨⟨kvs, rfl⟩, rfl⟩
  | _ => exact .inr ⟨nofun, rfl⟩

theorem decodeClaims_ok (u : Bytes → Dec Bytes) (extra : List Bytes) (bs : Bytes) (c : Claims)
    (h : decodeClaims u extra bs = .ok c) :
    ∃ kvs, Cbor.decodeAll {} bs = some (.map kvs) ∧ decodeClaimsMap u extra (.map kvs) = .ok c := by
  unfold decodeClaims at h
  split at h
  · cases h
  · rename_i t ht
    rcases decodeClaimsTree_cases u extra t with ⟨⟨kvs, rfl⟩, he⟩ | ⟨_, he⟩ <;> rw [he] at h
    · exact ⟨kvs, ht, h⟩
    · cases h

theorem decodeClaimsMap_ok (u : Bytes → Dec Bytes) (extra : List Bytes) (t : Cbor) (c : Claims)
    (h : decodeClaimsMap u extra t = .ok c) :
    ∃ name, selectProfile t = .ok name ∧
      ((name = [] ∨ name = p1Name) ∧ unmarshalInto u (Claims.new .p1) t = .ok c ∨
        name = p2Name ∧ unmarshalInto u (Claims.new .p2) t = .ok c) := by
  obtain ⟨name, hs, h⟩ := Dec.bind_eq_ok.mp h
  refine ⟨name, hs, ?_⟩
  split at h
  · cases h
  · cases h
  · exact .inl ⟨(lookupProfile_builtin extra name).1 ‹_›, h⟩
  · exact .inr ⟨(lookupProfile_builtin extra name).2 ‹_›, h⟩

theorem decodeAndValidate_ok_iff (u : Bytes → Dec Bytes) (extra : List Bytes) (bs : Bytes) (c : Claims) :
    decodeAndValidate u extra bs = .ok c ↔ decodeClaims u extra bs = .ok c ∧ validate c = .ok () := by
  rw [decodeAndValidate, Dec.bind_eq_ok]
  constructor
  · rintro ⟨c', hd, h⟩
    cases hv : validate c' <;> rw [hv] at h <;> cases h
    exact ⟨hd, hv⟩
  · rintro ⟨hd, hv⟩
    exact ⟨c, hd, by rw [hv]⟩

end Psa.Proofs
