/- Lists searched by a key (the ordered field maps, the register, JSON member lists). -/
namespace Psa.Proofs

theorem find?_key {α κ : Type} [BEq κ] [LawfulBEq κ] {g : α → κ} {l : List α} (hn : (l.map g).Nodup) {a : α}
    (ha : a ∈ l) : l.find? (g · == g a) = some a := by
  induction l with
  | nil => cases ha
  | cons x r ih =>
    rw [List.map_cons, List.nodup_cons] at hn
    rw [List.find?_cons]
    rcases List.mem_cons.mp ha with rfl | ha
    · rw [beq_self_eq_true]
    · rw [beq_false_of_ne fun hx : g x = g a => hn.1 (hx ▸ List.mem_map_of_mem ha)]
      exact ih hn.2 ha

theorem inj_of_nodup_map {α κ : Type} [BEq κ] [LawfulBEq κ] (g : α → κ) (l : List α) (h : (l.map g).Nodup) :
    ∀ a ∈ l, ∀ b ∈ l, g a = g b → a = b :=
  fun _ ha _ hb e => Option.some.inj ((find?_key h ha).symm.trans (e ▸ find?_key h hb))

end Psa.Proofs
