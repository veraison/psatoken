/- base64: decode ∘ encode = id, and the encoding is ASCII. -/
import Psa.Model.Json
namespace Psa.Proofs
open Psa Psa.Model

theorem b64val_char (n : Nat) (h : n < 64) : b64val (b64char n) = some n := by
  have : ∀ k : Fin 64, b64val (b64char k.val) = some k.val := by decide
  exact this ⟨n, h⟩

theorem b64char_ne_pad (n : Nat) (h : n < 64) : b64char n ≠ 61 := by
  intro hh
  have := b64val_char n h
  rw [hh] at this
  simp [b64val] at this

/-- three bytes cut into four sextets and put together again; a short last group is the case `y = 0` or `z = 0` -/
theorem regroup (x y z : Nat) (hx : x < 256) (hy : y < 256) (hz : z < 256) :
    (x / 4 < 64 ∧ x % 4 * 16 + y / 16 < 64 ∧ y % 16 * 4 + z / 64 < 64 ∧ z % 64 < 64) ∧
    x / 4 * 4 + (x % 4 * 16 + y / 16) / 16 = x ∧
    (x % 4 * 16 + y / 16) % 16 * 16 + (y % 16 * 4 + z / 64) / 4 = y ∧
    (y % 16 * 4 + z / 64) % 4 * 64 + z % 64 = z := by omega

theorem b64_roundtrip : ∀ b : Bytes, b64dec (b64enc b) = some b
  | [] => rfl
  | [a] => by
    obtain ⟨⟨h1, h2, _, _⟩, e1, _, _⟩ := regroup a.toNat 0 0 a.toNat_lt (by decide) (by decide)
    simp only [Nat.zero_div, Nat.add_zero] at h2 e1
    simp only [b64enc, b64dec, b64val_char _ h1, b64val_char _ h2, e1, UInt8.ofNat_toNat, true_and, if_true]
  | [a, b] => by
    obtain ⟨⟨h1, h2, h3, _⟩, e1, e2, _⟩ := regroup a.toNat b.toNat 0 a.toNat_lt b.toNat_lt (by decide)
    simp only [Nat.zero_div, Nat.add_zero] at h3 e2
    simp only [b64enc, b64dec, b64val_char _ h1, b64val_char _ h2, b64val_char _ h3, b64char_ne_pad _ h3, e1, e2,
      UInt8.ofNat_toNat, if_false, if_true]
  | a :: b :: c :: rest => by
    obtain ⟨⟨h1, h2, h3, h4⟩, e1, e2, e3⟩ := regroup a.toNat b.toNat c.toNat a.toNat_lt b.toNat_lt c.toNat_lt
    simp only [b64enc, b64dec, b64val_char _ h1, b64val_char _ h2, b64val_char _ h3, b64val_char _ h4,
      b64char_ne_pad _ h3, b64char_ne_pad _ h4, e1, e2, e3, UInt8.ofNat_toNat, if_false, b64_roundtrip rest,
      Option.map_some]

theorem b64char_lt (n : Nat) : (b64char n).toNat < 128 := by
  by_cases h : n < 64
  · exact (by decide : ∀ k : Fin 64, (b64char k.val).toNat < 128) ⟨n, h⟩
  · rw [b64char, if_neg (by omega), if_neg (by omega), if_neg (by omega), if_neg (by omega)]
    decide

theorem b64enc_ascii : ∀ (b : Bytes), ∀ x ∈ b64enc b, x.toNat < 128
  | [] => nofun
  | [a] => by simp [b64enc, b64char_lt]
  | [a, b] => by simp [b64enc, b64char_lt]
  | a :: b :: c :: rest => by
    simp only [b64enc, List.forall_mem_cons, b64char_lt, true_and]
    exact b64enc_ascii rest

end Psa.Proofs
