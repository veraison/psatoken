/- JSON side of the embedding-aware codec: the ordered map, flat field lists, struct shapes. -/
import Psa.Model.EncodingJson
import Psa.Proofs.FieldMap
import Psa.Proofs.Base64
namespace Psa.Proofs.EncJ
open Psa Psa.Model Psa.Model.EncJ
open Psa.Model.Enc (FVal FTy SVal)

/-- `Keys` and `Fields` agree, and no key occurs twice -/
structure JInv (m : JMap) : Prop where
  agree : m.keys = m.fields.map (·.1)
  nodup : m.keys.Nodup

theorem jsonMap : IsFieldMap JMap.keys JMap.fields JMap.mk JMap.has JMap.get JMap.add JMap.delete :=
  ⟨fun _ _ => rfl, fun _ _ => rfl, fun _ => rfl, fun _ _ => rfl, fun _ _ => rfl, fun _ _ _ => rfl, fun _ _ => rfl⟩

theorem inv_empty : JInv JMap.empty := ⟨rfl, List.nodup_nil⟩

theorem add_dup (m : JMap) (k : Bytes) (v : Json) (h : m.has k = true) : m.add k v = .err eOther :=
  jsonMap.add_dup v h

/-- a field value that fits its declared type -/
def Typed (f : FieldSpecJ) : Option FVal → Prop
  | none => True
  | some (.int i) => f.ty = .int ∧ -9223372036854775808 ≤ i ∧ i ≤ 9223372036854775807
  | some (.text _) => f.ty = .text
  | some (.bytes _) => f.ty = .bytes

/-- what the map holds for a field after serialisation -/
def expected (f : FieldSpecJ) (v : Option FVal) : Option Json :=
  if f.omitempty && v.isNone then none else some (jFVal v)

theorem decFVal_j (f : FieldSpecJ) (v : Option FVal) (h : Typed f v) : EncJ.decFVal f.ty (jFVal v) = .ok v := by
  unfold EncJ.decFVal
  cases v with
  | none => cases f.ty <;> simp [jFVal, jDecInt, jDecText, jDecBytes, Dec.map, Dec.bind]
  | some x =>
    cases x with
    | int i =>
      simp only [Typed] at h
      simp [jFVal, h.1, jDecInt, h.2.1, h.2.2, Dec.map, Dec.bind]
    | text s =>
      simp only [Typed] at h
      simp [jFVal, h, jDecText, Dec.map, Dec.bind]
    | bytes b =>
      simp only [Typed] at h
      simp [jFVal, h, jDecBytes, jBytes, b64_roundtrip, Dec.map, Dec.bind]

/-- as many values as fields, each fitting its field -/
def TypedAll : List FieldSpecJ → List (Option FVal) → Prop
  | [], [] => True
  | f :: fs, v :: vs => Typed f v ∧ TypedAll fs vs
  | _, _ => False

theorem typedAll_length : ∀ {fs vs}, TypedAll fs vs → fs.length = vs.length
  | [], [], _ => rfl
  | _ :: _, _ :: _, h => congrArg (· + 1) (typedAll_length h.2)

theorem typedAll_zip : ∀ {fs vs}, TypedAll fs vs → ∀ q ∈ fs.zip vs, Typed q.1 q.2
  | [], _, _, _, hq => nomatch hq
  | _ :: _, [], h, _, _ => h.elim
  | f :: fs, v :: vs, h, q, hq => by
    rcases List.mem_cons.mp hq with rfl | hq
    · exact h.1
    · exact typedAll_zip h.2 q hq

theorem json : IsFieldCodec JMap.keys JMap.fields JMap.mk JMap.has JMap.get JMap.add JMap.delete
    FieldSpecJ.name FieldSpecJ.omitempty jFVal (fun f => EncJ.decFVal f.ty) addFields popFields where
  toIsFieldMap := jsonMap
  addFields_nil _ _ := rfl
  addFields_nil' fs _ := by cases fs <;> rfl
  addFields_cons _ _ _ _ _ := rfl
  popFields_nil _ := rfl
  popFields_none f fs m h := by rw [popFields, h]
  popFields_some f fs m raw h := by rw [popFields, h]

theorem typedAll_dec {fs : List FieldSpecJ} {vs : List (Option FVal)} (h : TypedAll fs vs) :
    ∀ q ∈ fs.zip vs, EncJ.decFVal q.1.ty (jFVal q.2) = .ok q.2 :=
  fun q hq => decFVal_j q.1 q.2 (typedAll_zip h q hq)

theorem popFields_missing (f : FieldSpecJ) (fs : List FieldSpecJ) (m : JMap) (hm : m.get f.name = none)
    (ho : f.omitempty = false) : popFields (f :: fs) m = .err := by
  simp [popFields, hm, ho]

mutual
/-- all fields of a shape, outer first, then each embedded struct's in turn -/
def specs : ShapeJ → List FieldSpecJ
  | .mk fields embeds => fields ++ specsList embeds
def specsList : List ShapeJ → List FieldSpecJ
  | [] => []
  | s :: ss => specs s ++ specsList ss
end

mutual
def flat : SVal → List (Option FVal)
  | .mk vals evs => vals ++ flatList evs
def flatList : List SVal → List (Option FVal)
  | [] => []
  | v :: vs => flat v ++ flatList vs
end

mutual
/-- the value has the shape's structure and every field value fits its type -/
def Fits : ShapeJ → SVal → Prop
  | .mk fields embeds, .mk vals evs => TypedAll fields vals ∧ FitsList embeds evs
def FitsList : List ShapeJ → List SVal → Prop
  | [], [] => True
  | s :: ss, v :: vs => Fits s v ∧ FitsList ss vs
  | _, _ => False
end

theorem typedAll_append {b : List FieldSpecJ} {vb : List (Option FVal)} : ∀ {a : List FieldSpecJ} {va : List (Option FVal)},
    TypedAll a va → TypedAll b vb → TypedAll (a ++ b) (va ++ vb)
  | [], [], _, h => h
  | _ :: _, _ :: _, h1, h2 => ⟨h1.1, typedAll_append h1.2 h2⟩

mutual
theorem fits_typed : ∀ (sh : ShapeJ) (v : SVal), Fits sh v → TypedAll (specs sh) (flat v)
  | .mk fields embeds, .mk vals evs, h => by
    simp only [specs, flat]
    exact typedAll_append h.1 (fitsList_typed embeds evs h.2)
theorem fitsList_typed : ∀ (ss : List ShapeJ) (vs : List SVal), FitsList ss vs → TypedAll (specsList ss) (flatList vs)
  | [], [], _ => trivial
  | s :: ss, v :: vs, h => by
    simp only [specsList, flatList]
    exact typedAll_append (fits_typed s v h.1) (fitsList_typed ss vs h.2)
end

mutual
/-- serialising a struct with embedding is serialising the flattened field list -/
theorem serializeInto_flat : ∀ (sh : ShapeJ) (v : SVal) (m : JMap), Fits sh v →
    serializeInto sh v m = addFields (specs sh) (flat v) m
  | .mk fields embeds, .mk vals evs, m, h => by
    simp only [serializeInto, specs, flat]
    rw [json.addFields_append (typedAll_length h.1)]
    exact bind_congr fun m' _ => serializeEmbeds_flat embeds evs m' h.2
theorem serializeEmbeds_flat : ∀ (ss : List ShapeJ) (vs : List SVal) (m : JMap), FitsList ss vs →
    serializeEmbeds ss vs m = addFields (specsList ss) (flatList vs) m
  | [], [], m, _ => by simp [serializeEmbeds, specsList, flatList, addFields]
  | s :: ss, v :: vs, m, h => by
    simp only [serializeEmbeds, specsList, flatList]
    rw [json.addFields_append (typedAll_length (fits_typed s v h.1)), serializeInto_flat s v m h.1]
    exact bind_congr fun m' _ => serializeEmbeds_flat ss vs m' h.2
end

mutual
/-- … and so is populating: if the flattened field list populates to the flattened value, the struct populates to
    the value -/
theorem populateFrom_flat : ∀ (sh : ShapeJ) (v : SVal) (m m' : JMap), Fits sh v →
    popFields (specs sh) m = .ok (flat v, m') → populateFrom sh m = .ok (v, m')
  | .mk fields embeds, .mk vals evs, m, m', hf, h => by
    obtain ⟨m1, h1, h2⟩ := json.popFields_append_ok (typedAll_length hf.1) h
    simp [populateFrom, h1, populateEmbeds_flat embeds evs m1 m' hf.2 h2, Dec.bind, Dec.map]
theorem populateEmbeds_flat : ∀ (ss : List ShapeJ) (vs : List SVal) (m m' : JMap), FitsList ss vs →
    popFields (specsList ss) m = .ok (flatList vs, m') → populateEmbeds ss m = .ok (vs, m')
  | [], [], m, m', _, h => by simpa [specsList, flatList, popFields, populateEmbeds] using h
  | s :: ss, v :: vs, m, m', hf, h => by
    obtain ⟨m1, h1, h2⟩ := json.popFields_append_ok (typedAll_length (fits_typed s v hf.1)) h
    simp [populateEmbeds, populateFrom_flat s v m m1 hf.1 h1, populateEmbeds_flat ss vs m1 m' hf.2 h2, Dec.bind, Dec.map]
end

theorem populateEmbeds_spec : ∀ (ss : List ShapeJ) (vs : List SVal) (m : JMap), FitsList ss vs →
    ((specsList ss).map (·.name)).Nodup →
    (∀ p ∈ (specsList ss).zip (flatList vs), m.get p.1.name = expected p.1 p.2) →
    ∃ m', populateEmbeds ss m = .ok (vs, m') ∧ (∀ k, k ∉ (specsList ss).map (·.name) → m'.get k = m.get k) ∧
      (∀ k, m.get k = none → m'.get k = none) ∧ (∀ k, k ∈ (specsList ss).map (·.name) → m'.get k = none) := by
  intro ss vs m hf hn hg
  have ht := fitsList_typed ss vs hf
  obtain ⟨m', h1, h2⟩ := json.popFields_spec m (typedAll_length ht) hn (typedAll_dec ht) hg
  exact ⟨m', populateEmbeds_flat ss vs m m' hf h1, h2⟩

end Psa.Proofs.EncJ
