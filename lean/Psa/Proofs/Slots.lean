/-
  The field setters of the three decoded structs, key by key, as "decode a value, store it": the form in which
  order independence (Perm) and the frame lemmas (Dispatch) use them.
-/
import Psa.Proofs.Dec
namespace Psa.Proofs
open Psa Psa.Model

/-- a field of a struct as its setter treats it: how the value is decoded (the sw field's decoder looks at the struct)
    and where it is stored -/
structure Slot (σ : Type) where
  τ : Type
  dec : σ → Cbor → Dec τ
  put : σ → τ → σ

def Slot.set {σ} (a : Slot σ) (s : σ) (v : Cbor) : Dec σ := (a.dec s v).map (a.put s)

/-- storing into the slot leaves the view `f` of the struct as it was -/
def Slot.Keeps {σ α} (a : Slot σ) (f : σ → α) : Prop := ∀ s x, f (a.put s x) = f s

theorem Slot.keeps_ite {σ α} {f : σ → α} {c : Prop} [Decidable c] {a b : Slot σ} (ha : a.Keeps f) (hb : b.Keeps f) :
    (if c then a else b).Keeps f := by
  split <;> assumption

/-- storing into either slot does not change what the other's decoder sees, and the two stores commute -/
structure Slot.Apart {σ} (a b : Slot σ) : Prop where
  dec_put : b.Keeps a.dec
  put_dec : a.Keeps b.dec
  put_put : ∀ s x y, b.put (a.put s x) y = a.put (b.put s y) x

theorem Slot.Apart.symm {σ} {a b : Slot σ} (h : a.Apart b) : b.Apart a :=
  ⟨h.put_dec, h.dec_put, fun s y x => (h.put_put s x y).symm⟩

theorem Slot.set_ok {σ} (a : Slot σ) (s s' : σ) (v : Cbor) :
    a.set s v = .ok s' ↔ ∃ x, a.dec s v = .ok x ∧ a.put s x = s' :=
  Dec.map_eq_ok

def compSlot (k : Int) : Slot SwComp :=
  if k = 1 then ⟨_, fun _ => decText, fun sc x => { sc with mtype := x }⟩
  else if k = 2 then ⟨_, fun _ => decBytesVal, fun sc x => { sc with mval := x }⟩
  else if k = 4 then ⟨_, fun _ => decText, fun sc x => { sc with version := x }⟩
  else if k = 5 then ⟨_, fun _ => decBytesVal, fun sc x => { sc with signer := x }⟩
  else ⟨_, fun _ => decText, fun sc x => { sc with mdesc := x }⟩

def p1Slot (k : Int) : Slot Claims :=
  if k = -75000 then ⟨_, fun _ => decText, fun c x => { c with profile := x.map .str }⟩
  else if k = -75001 then ⟨_, fun _ => decIntRange (-2147483648) 2147483647, fun c x => { c with clientId := x }⟩
  else if k = -75002 then ⟨_, fun _ => decIntRange 0 65535, fun c x => { c with lifecycle := x.map Int.toNat }⟩
  else if k = -75003 then ⟨_, fun _ => decBytesVal, fun c x => { c with implId := x }⟩
  else if k = -75004 then ⟨_, fun _ => decBytesVal, fun c x => { c with bootSeed := x }⟩
  else if k = -75005 then ⟨_, fun _ => decText, fun c x => { c with certRef := x }⟩
  else if k = -75006 then ⟨_, fun c => decSwField c.sw, fun c x => { c with sw := x }⟩
  else if k = -75007 then ⟨_, fun _ => decIntRange 0 18446744073709551615, fun c x => { c with noSw := x.map Int.toNat }⟩
  else if k = -75008 then ⟨_, fun _ => decBytesVal, fun c x => { c with nonce := x.map fun b => [b] }⟩
  else if k = -75009 then ⟨_, fun _ => decBytesVal, fun c x => { c with instId := x }⟩
  else ⟨_, fun _ => decText, fun c x => { c with vsi := x }⟩

def p2Slot (u : Bytes → Dec Bytes) (k : Int) : Slot Claims :=
  if k = 265 then ⟨_, fun _ => decEatProfile u, fun c x => { c with profile := x }⟩
  else if k = 2394 then ⟨_, fun _ => decIntRange (-2147483648) 2147483647, fun c x => { c with clientId := x }⟩
  else if k = 2395 then ⟨_, fun _ => decIntRange 0 65535, fun c x => { c with lifecycle := x.map Int.toNat }⟩
  else if k = 2396 then ⟨_, fun _ => decBytesVal, fun c x => { c with implId := x }⟩
  else if k = 2397 then ⟨_, fun _ => decBytesVal, fun c x => { c with bootSeed := x }⟩
  else if k = 2398 then ⟨_, fun _ => decText, fun c x => { c with certRef := x }⟩
  else if k = 2399 then ⟨_, fun c => decSwField c.sw, fun c x => { c with sw := x }⟩
  else if k = 10 then ⟨_, fun _ => decEatNonce, fun c x => { c with nonce := x }⟩
  else if k = 256 then ⟨_, fun _ => decBytesVal, fun c x => { c with instId := x }⟩
  else ⟨_, fun _ => decText, fun c x => { c with vsi := x }⟩

theorem setComp_eq (sc : SwComp) (k : Int) (v : Cbor) : setComp sc k v = (compSlot k).set sc v := by
  simp only [compSlot, apply_ite (Slot.set · sc v)]; rfl

theorem setP1_eq (c : Claims) (k : Int) (v : Cbor) : setP1 c k v = (p1Slot k).set c v := by
  simp only [p1Slot, apply_ite (Slot.set · c v)]; rfl

theorem setP2_eq (u : Bytes → Dec Bytes) (c : Claims) (k : Int) (v : Cbor) : setP2 u c k v = (p2Slot u k).set c v := by
  simp only [p2Slot, apply_ite (Slot.set · c v)]; rfl

end Psa.Proofs
