/- The setters: one normal form (`applySet_cases`), what the getter reads back (`get_assign`), and what follows for frames,
   normalisation and histories (helpers for C11, C13). -/
import Psa.Proofs.Validate
namespace Psa.Proofs
open Psa Psa.Model Psa.Spec

-- `rfl` between the name held by `Claims.new p` and the same name written out would have the unifier evaluate the
-- name's string literal; nothing below looks inside the names
attribute [local irreducible] p1Name p2Name

theorem norm_idem (f : SwField) : f.norm.norm = f.norm := by cases f <;> rfl

theorem normalize_prof (c : Claims) : c.normalize.prof = c.prof := rfl

/-- What a refused setter call leaves behind: the claims-set itself, except that profile 2's component-list setter has
    by then replaced a nil container interface by an empty container. -/
def refused (c : Claims) : SetOp → Claims
  | .sw (some _) => match c.prof with
    | .p1 => c
    | .p2 => c.normalize
  | _ => c

/-- **Every setter is: decide `accepts`, then assign or refuse.**  An accepted value is stored by `assign` and nothing
    else changes; a refused one is reported with the wrong-syntax class (for the component list, with the class of the
    offending component) and leaves `refused c op`. -/
theorem applySet_cases (c : Claims) (op : SetOp) :
    (accepts c.prof op = true ∧ applySet c op = (assign c op, .ok ())) ∨
    (accepts c.prof op = false ∧ ∃ m, applySet c op = (refused c op, .err m) ∧
      (m = eWrongSyntax ∨ (∃ l, op = .sw l) ∧ m = eMissingMandatory)) := by
  obtain ⟨prof, canonical, profile, clientId, lifecycle, implId, bootSeed, certRef, sw, noSw, nonce, instId, vsi⟩ := c
  cases op with
  | clientId v => exact Or.inl ⟨rfl, rfl⟩
  | lifecycle v =>
    simp only [applySet, accepts, validateSecurityLifeCycle_eq]
    by_cases h : Spec.state v ≠ .invalid <;> simp [h, assign, refused]
  | implId b =>
    simp only [applySet, accepts, validateImplID_eq]
    by_cases h : b.length = 32 <;> simp [h, assign, refused]
  | nonce b =>
    simp only [applySet, accepts, validatePSAHashType_eq, ← HashLen.eq_1, ← hashOK_iff]
    by_cases h : hashOK b = true <;> simp [h, assign, refused]
  | instId b =>
    simp only [applySet, accepts, validateInstID_eq, Bool.and_eq_true, beq_iff_eq]
    by_cases h : b.length = 33 ∧ b.head? = some 1 <;> simp [h, assign, refused]
    exact not_and.mp h
  | vsi s =>
    cases s with
    | nil => exact Or.inr ⟨rfl, _, rfl, Or.inl rfl⟩
    | cons a as => exact Or.inl ⟨rfl, rfl⟩
  | bootSeed b =>
    cases prof <;> simp only [applySet, accepts, ite_bne, ite_outside]
    · by_cases h : b.length = 32 <;> simp [h, assign, refused]
    · by_cases h : 8 ≤ b.length ∧ b.length ≤ 32 <;> simp [h, assign, refused]
  | certRef s =>
    cases prof <;> simp only [applySet, accepts, ite_bnot, ite_bnot_and]
    · cases isEan13 s || isEan13p5 s <;> simp [assign, refused]
    · cases isEan13p5 s <;> simp [assign, refused]
  | sw l =>
    cases l with
    | none =>
      cases prof
      · exact Or.inl ⟨rfl, rfl⟩
      · exact Or.inr ⟨rfl, _, rfl, Or.inl rfl⟩
    | some vals =>
      cases prof
      all_goals
        simp only [applySet, accepts, replaceVals, assign, refused]
        rcases validateAndConvert_cases vals with ⟨h, hok⟩ | ⟨m, h, hc, hbad⟩ <;> rw [h]
        -- `cases sw`: profile 2 has by now replaced a nil container by an empty one, and that `match` has to compute
        · exact Or.inl ⟨(all_compOK_iff vals).mpr hok, by cases sw <;> rfl⟩
        · refine Or.inr ⟨by rw [Bool.eq_false_iff, ne_eq, all_compOK_iff]; exact hbad, m, by cases sw <;> rfl, ?_⟩
          rcases hc with rfl | rfl
          · exact Or.inr ⟨⟨_, rfl⟩, rfl⟩
          · exact Or.inl rfl

theorem applySet_ok_iff (c : Claims) (op : SetOp) :
    (applySet c op).2 = .ok () ↔ accepts c.prof op = true := by
  rcases applySet_cases c op with ⟨ha, h⟩ | ⟨ha, m, h, _⟩ <;> simp [h, ha]

theorem applySet_succ (c : Claims) (op : SetOp) (h : accepts c.prof op = true) :
    (applySet c op).1 = assign c op := by
  rcases applySet_cases c op with ⟨_, h'⟩ | ⟨ha, _⟩
  · rw [h']
  · rw [ha] at h; cases h

theorem applySet_refused (c : Claims) (op : SetOp) (h : accepts c.prof op = false) :
    (applySet c op).1 = refused c op := by
  rcases applySet_cases c op with ⟨ha, _⟩ | ⟨_, m, h', _⟩
  · rw [ha] at h; cases h
  · rw [h']

theorem refused_normalize (c : Claims) (op : SetOp) : (refused c op).normalize = c.normalize := by
  unfold refused
  split
  · split
    · rfl
    · simp only [Claims.normalize, norm_idem]
  · rfl

theorem refused_exact (c : Claims) (op : SetOp) (hp : c.prof = .p1 ∨ ∀ l, op ≠ .sw l) : refused c op = c := by
  unfold refused
  split
  · rcases hp with hp | hp
    · rw [hp]
    · exact absurd rfl (hp _)
  · rfl

theorem assign_prof (c : Claims) (op : SetOp) : (assign c op).prof = c.prof := by
  cases op with
  | sw l => cases l <;> simp only [assign] <;> cases c.prof <;> rfl
  | _ => rfl

theorem applySet_prof (c : Claims) (op : SetOp) : (applySet c op).1.prof = c.prof := by
  rcases applySet_cases c op with ⟨_, h⟩ | ⟨_, m, h, _⟩ <;> rw [h]
  · exact assign_prof c op
  · show (refused c op).normalize.prof = c.normalize.prof
    rw [refused_normalize]

theorem assign_norm (c : Claims) (op : SetOp) :
    (assign c.normalize op).normalize = (assign c op).normalize := by
  cases op with
  | sw l => cases l <;> simp only [assign, normalize_prof] <;> cases c.prof <;> rfl
  | _ => simp [assign, Claims.normalize, norm_idem]

theorem canon_prof (p : Prof) (v : Vals) : (canon p v).prof = p := by
  unfold canon
  cases v.sw with
  | none => cases p <;> rfl
  | some o => cases o <;> cases p <;> rfl

theorem assign_canon (p : Prof) (v : Vals) (op : SetOp) : assign (canon p v) op = canon p (v.set op) := by
  obtain ⟨cid, lc, impl, boot, cert, sw, nonce, inst, vsi⟩ := v
  cases op with
  | sw l => cases l <;> rcases sw with _ | _ | _ <;> cases p <;> rfl
  | _ =>
    rcases sw with _ | _ | _
    · rfl
    · cases p <;> rfl
    · rfl

theorem canon_empty (p : Prof) : canon p {} = Claims.new p := by cases p <;> rfl

/-- the history invariant: the state is, observably, the canonical object of the last accepted values -/
theorem run_canon (p : Prof) (ops : List SetOp) (c : Claims) (v : Vals) (h : c.normalize = (canon p v).normalize) :
    (run c ops).normalize = (canon p (ops.foldl (Vals.upd p) v)).normalize := by
  induction ops generalizing c v with
  | nil => exact h
  | cons op rest ih =>
    simp only [run, List.foldl_cons] at ih ⊢
    apply ih
    obtain rfl : c.prof = p := (congrArg Claims.prof h).trans (canon_prof p v)
    unfold Vals.upd
    cases ha : accepts c.prof op
    · simp only [Bool.false_eq_true, if_false]
      rw [applySet_refused c op ha, refused_normalize]; exact h
    · simp only [if_true]
      rw [applySet_succ c op ha, ← assign_norm, h, assign_norm, assign_canon]

theorem norm_elems (f : SwField) : f.norm.elems = f.elems := by cases f <;> rfl

theorem get_normalize (g : Getter) (c : Claims) : Model.get g c.normalize = Model.get g c :=
  get_sw_irrelevant g c c.sw.norm (norm_elems c.sw)

theorem get_of_normalize_eq (g : Getter) (a b : Claims) (h : a.normalize = b.normalize) :
    Model.get g a = Model.get g b := by
  rw [← get_normalize g a, h, get_normalize]

theorem validate_of_normalize_eq (a b : Claims) (h : a.normalize = b.normalize) :
    validate a = validate b :=
  validateWith_congr (fun g => get_of_normalize_eq g a b h) _

/-- The getter applies to an assigned value the test the setter applies before assigning it, so what it answers is the
    setter's verdict.  Two calls apart: the empty non-nil list, which the setter accepts and the getter reports as missing;
    and profile 2's nil list, which the setter refuses as such, while the getter reports the empty list `assign` stores
    for it as missing. -/
theorem get_assign_verdict (c : Claims) (op : SetOp) (hc : op ≠ .sw (some [])) (hn : c.prof = .p2 → op ≠ .sw none) :
    Model.get (claimOf op) (assign c op) = (applySet c op).2.bind fun _ => .ok (valOf op) := by
  obtain ⟨prof, canonical, profile, clientId, lifecycle, implId, bootSeed, certRef, sw, noSw, nonce, instId, vsi⟩ := c
  cases op with
  | clientId v => rfl
  | lifecycle v =>
    simp only [claimOf, assign, valOf, Model.get, getSecurityLifeCycle, applySet]
    cases validateSecurityLifeCycle v <;> rfl
  | implId b =>
    simp only [claimOf, assign, valOf, Model.get, getImplID, applySet]
    cases validateImplID b <;> rfl
  | nonce b =>
    simp only [claimOf, assign, valOf, Model.get, getNonce, validateNonce, applySet]
    cases validatePSAHashType b <;> rfl
  | instId b =>
    simp only [claimOf, assign, valOf, Model.get, getInstID, applySet]
    cases validateInstID b <;> rfl
  | vsi s =>
    simp only [claimOf, assign, valOf, Model.get, getVSI, applySet]
    cases validateVSI s <;> rfl
  | bootSeed b => cases prof <;> simp only [claimOf, assign, valOf, Model.get, getBootSeed, applySet] <;> split <;> rfl
  | certRef s =>
    cases prof <;> simp only [claimOf, assign, valOf, Model.get, getCertificationReference, applySet] <;> split <;> rfl
  | sw l =>
    cases l with
    | none =>
      cases prof
      · rfl
      · exact absurd rfl (hn rfl)
    | some vals =>
      have hne : vals ≠ [] := fun h => hc (by rw [h])
      have hg : Model.get .sw (assign ⟨prof, canonical, profile, clientId, lifecycle, implId, bootSeed, certRef, sw, noSw,
          nonce, instId, vsi⟩ (.sw (some vals))) = (valuesOf (vals.map some)).bind fun l => .ok (.comps (some l)) := by
        cases prof <;> simp [assign, Model.get, getSoftwareComponents, SwField.nilOrEmpty, SwField.elems, hne]
      rw [claimOf, hg]
      -- the setter's walk is the getter's (`validateAndConvert_eq`), and what it hands out on success is `vals`
      cases prof <;> simp only [applySet, replaceVals, validateAndConvert_eq] <;>
        rcases valuesOf_map_cases vals with ⟨h, _⟩ | ⟨m, h, _⟩ <;> rw [h] <;> rfl

theorem get_assign (c : Claims) (op : SetOp) (hc : op ≠ .sw (some [])) :
    (accepts c.prof op = true ∧ Model.get (claimOf op) (assign c op) = .ok (valOf op)) ∨
    (accepts c.prof op = false ∧ ∃ m, Model.get (claimOf op) (assign c op) = .err m ∧ CompErr m) := by
  by_cases hn : c.prof = .p2 ∧ op = .sw none
  · obtain ⟨hp, rfl⟩ := hn
    exact Or.inr ⟨by rw [hp]; rfl, _, by simp only [assign, hp]; rfl, Or.inl rfl⟩
  · rw [get_assign_verdict c op hc fun hp ho => hn ⟨hp, ho⟩]
    rcases applySet_cases c op with ⟨ha, h⟩ | ⟨ha, m, h, hm⟩ <;> rw [h]
    · exact Or.inl ⟨ha, rfl⟩
    · exact Or.inr ⟨ha, m, rfl, hm.elim (fun h => Or.inr h) fun h => Or.inl h.2⟩

theorem assign_frame (c : Claims) (op : SetOp) (g : Getter) (hg : g ≠ claimOf op) :
    Model.get g (assign c op) = Model.get g c := by
  obtain ⟨prof, canonical, profile, clientId, lifecycle, implId, bootSeed, certRef, sw, noSw, nonce, instId, vsi⟩ := c
  cases op with
  | sw l => cases l <;> cases prof <;> cases g <;> first | rfl | exact absurd rfl hg
  | _ => cases g <;> first | rfl | exact absurd rfl hg

def AllAccepted (p : Prof) (v : Vals) : Prop :=
  (∀ x, v.clientId = some x → accepts p (.clientId x) = true) ∧
  (∀ x, v.lifecycle = some x → accepts p (.lifecycle x) = true) ∧
  (∀ x, v.implId = some x → accepts p (.implId x) = true) ∧
  (∀ x, v.bootSeed = some x → accepts p (.bootSeed x) = true) ∧
  (∀ x, v.certRef = some x → accepts p (.certRef x) = true) ∧
  (∀ x, v.sw = some x → accepts p (.sw x) = true) ∧
  (∀ x, v.nonce = some x → accepts p (.nonce x) = true) ∧
  (∀ x, v.instId = some x → accepts p (.instId x) = true) ∧
  (∀ x, v.vsi = some x → accepts p (.vsi x) = true)

theorem lastOk_accepted (p : Prof) (ops : List SetOp) : AllAccepted p (lastOk p ops) := by
  refine List.foldlRecOn (motive := AllAccepted p) ops _ (by simp [AllAccepted]) fun v hv op _ => ?_
  unfold Vals.upd
  cases ha : accepts p op
  · simpa using hv
  · simp only [if_true]
    obtain ⟨h1, h2, h3, h4, h5, h6, h7, h8, h9⟩ := hv
    cases op <;> simp only [Vals.set] <;>
      refine ⟨?_, ?_, ?_, ?_, ?_, ?_, ?_, ?_, ?_⟩ <;>
      first | assumption | (intro x hx; cases hx; exact ha)

theorem canon_untouched (p : Prof) (v : Vals) :
    (canon p v).profile = some (.str (canon p v).canonical) ∧ (canon p v).bootSeed = v.bootSeed ∧
    (canon p v).certRef = v.certRef ∧ (canon p v).vsi = v.vsi := by
  unfold canon
  rcases v.sw with _ | _ | _ <;> cases p <;> exact ⟨rfl, rfl, rfl, rfl⟩

/-- A recorded value is in order on the canonical object, because its setter accepted it: assigning it again changes
    nothing (`assign_canon`), and the getter hands out an accepted assignment (`get_assign`). -/
theorem recorded_ok (p : Prof) (v : Vals) (op : SetOp) (hs : v.set op = v) (hc : op ≠ .sw (some []))
    (ha : accepts p op = true) : ClaimOK (claimOf op) (canon p v) := by
  rcases get_assign (canon p v) op hc with ⟨_, hg⟩ | ⟨hn, _⟩
  · rw [assign_canon, hs] at hg
    rw [← pass_iff, Pass, hg]; rfl
  · rw [canon_prof, ha] at hn; cases hn

end Psa.Proofs
