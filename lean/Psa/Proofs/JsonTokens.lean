/-
  Proofs about the token layer of the JSON ordered field map (`Psa/Model/JsonTokens.lean`):
  every call consumes input, the fuel never binds, on the token stream of a document the loops compute
  exactly what the tree-level model (`EncJ.fromJSON`) says (the member names in document order), and on any
  token list at all, malformed streams included, they do not run out of fuel.
-/
import Psa.Model.JsonTokens
namespace Psa.Proofs.JTok
open Psa Psa.Model Psa.Model.JTok

theorem skip_consumes : ∀ (f : Nat) (ts : List Tok),
    (∀ r, skipValue f ts = .ok r → r.length < ts.length) ∧
    (∀ r, skipValue f ts = .eos r → r.length < ts.length) ∧
    (∀ r, skipLoop f ts = .ok r → r.length < ts.length) ∧
    (∀ r, skipLoop f ts ≠ .eos r)
  | 0, _ => ⟨nofun, nofun, nofun, nofun⟩
  | f + 1, ts => by
    have ih := skip_consumes f
    -- the two conjuncts about `skipValue` share one analysis of the head token
    rw [← and_assoc]
    refine ⟨?_, fun r h => ?_, fun r h => ?_⟩
    · rcases ts with _ | ⟨t, rest⟩
      · exact ⟨nofun, nofun⟩
      · cases t
        case objOpen | arrOpen =>
          exact ⟨fun r h => Nat.lt_succ_of_lt ((ih rest).2.2.1 r h), fun r h => absurd h ((ih rest).2.2.2 r)⟩
        all_goals simp [skipValue]
    · rw [skipLoop] at h
      cases hs : skipValue f ts with
      | ok rest => rw [hs] at h; exact Nat.lt_trans ((ih rest).2.2.1 r h) ((ih ts).1 rest hs)
      | eos rest => rw [hs] at h; cases h; exact (ih ts).2.1 r hs
      | err | fuel => rw [hs] at h; cases h
    · rw [skipLoop] at h
      cases hs : skipValue f ts with
      | ok rest => rw [hs] at h; exact (ih rest).2.2.2 r h
      | eos | err | fuel => rw [hs] at h; cases h

theorem skip_fuel_enough : ∀ (f : Nat) (ts : List Tok),
    (2 * ts.length + 1 ≤ f → skipValue f ts ≠ .fuel) ∧
    (2 * ts.length + 2 ≤ f → skipLoop f ts ≠ .fuel)
  | 0, _ => ⟨fun h => absurd h (by omega), fun h => absurd h (by omega)⟩
  | f + 1, ts => by
    have ih := skip_fuel_enough f
    constructor
    · intro hf
      rcases ts with _ | ⟨t, rest⟩
      · nofun
      · rw [List.length_cons] at hf
        cases t
        case objOpen | arrOpen => exact (ih rest).2 (by omega)
        all_goals nofun
    · intro hf
      rw [skipLoop]
      cases hs : skipValue f ts with
      | ok rest => exact (ih rest).2 (by have := (skip_consumes f ts).1 rest hs; omega)
      | eos | err => nofun
      | fuel => exact absurd hs ((ih ts).1 (by omega))

/-- once the answer is not "out of fuel", it is the answer for every larger fuel -/
theorem skip_fuel_le : ∀ (f g : Nat) (ts : List Tok), f ≤ g →
    (skipValue f ts ≠ .fuel → skipValue g ts = skipValue f ts) ∧
    (skipLoop f ts ≠ .fuel → skipLoop g ts = skipLoop f ts)
  | 0, _, _, _ => ⟨fun h => absurd rfl h, fun h => absurd rfl h⟩
  | f + 1, g + 1, ts, hfg => by
    have ih := fun ts => skip_fuel_le f g ts (Nat.le_of_succ_le_succ hfg)
    constructor
    · intro h
      rcases ts with _ | ⟨t, rest⟩
      · rfl
      · cases t
        case objOpen | arrOpen => exact (ih rest).2 h
        all_goals rfl
    · intro h
      rw [skipLoop] at h
      rw [skipLoop, skipLoop]
      have hv : skipValue f ts ≠ .fuel := by
        intro hv; rw [hv] at h; exact h rfl
      rw [(ih ts).1 hv]
      cases hsv : skipValue f ts with
      | ok rest => rw [hsv] at h; exact (ih rest).2 h
      | eos | err | fuel => rfl

theorem skip_fuel_mono : ∀ (f : Nat) (ts : List Tok),
    (skipValue f ts ≠ .fuel → skipValue (f + 1) ts = skipValue f ts) ∧
    (skipLoop f ts ≠ .fuel → skipLoop (f + 1) ts = skipLoop f ts) :=
  fun f ts => skip_fuel_le f (f + 1) ts (Nat.le_succ f)

/-- `skipValue` is a total function of the token list: any two sufficient fuels agree -/
theorem skip_fuel_irrelevant (ts : List Tok) (f : Nat) (hf : 2 * ts.length + 1 ≤ f) :
    skipValue f ts = skipValue (2 * ts.length + 1) ts :=
  (skip_fuel_le _ f ts hf).1 ((skip_fuel_enough _ ts).1 (Nat.le_refl _))

theorem tokens_pos : ∀ v : Json, 1 ≤ (tokens v).length
  | .null | .bool _ | .int _ | .numOther _ | .str _ | .arr _ | .obj _ => by simp [tokens]

theorem skipLoop_step {f : Nat} {ts r : List Tok} (h : skipValue f ts = .ok r) : skipLoop (f + 1) ts = skipLoop f r := by
  rw [skipLoop, h]

theorem skipLoop_close {c : Tok} (hc : c = .arrClose ∨ c = .objClose) {f : Nat} (hf : 2 ≤ f) (rest : List Tok) :
    skipLoop f (c :: rest) = .ok rest := by
  obtain ⟨f, rfl⟩ := Nat.exists_eq_add_of_le' hf
  rcases hc with rfl | rfl <;> rfl

mutual
theorem skipValue_tokens : ∀ (v : Json) (f : Nat) (rest : List Tok),
    2 * (tokens v).length ≤ f → skipValue f (tokens v ++ rest) = .ok rest
  | v, 0, _, h => by have := tokens_pos v; omega
  | .null, _ + 1, _, _ | .bool _, _ + 1, _, _ | .int _, _ + 1, _, _ | .numOther _, _ + 1, _, _
  | .str _, _ + 1, _, _ => rfl
  | .arr xs, f + 1, rest, h => by
    rw [tokens, List.length_cons, List.length_append, List.length_singleton] at h
    rw [tokens, List.cons_append, List.append_assoc, skipValue]
    exact skipLoop_list xs f .arrClose rest (.inl rfl) (by omega)
  | .obj ms, f + 1, rest, h => by
    rw [tokens, List.length_cons, List.length_append, List.length_singleton] at h
    rw [tokens, List.cons_append, List.append_assoc, skipValue]
    exact skipLoop_members ms f .objClose rest (.inr rfl) (by omega)
theorem skipLoop_list : ∀ (xs : List Json) (f : Nat) (c : Tok) (rest : List Tok),
    (c = .arrClose ∨ c = .objClose) → 2 * (tokensList xs).length + 2 ≤ f →
    skipLoop f (tokensList xs ++ c :: rest) = .ok rest
  | [], _, _, rest, hc, h => skipLoop_close hc (Nat.le_of_add_left_le h) rest
  | _ :: _, 0, _, _, _, h => by omega
  | x :: xs, f + 1, c, rest, hc, h => by
    rw [tokensList, List.length_append] at h
    have := tokens_pos x
    rw [tokensList, List.append_assoc, skipLoop_step (skipValue_tokens x f _ (by omega))]
    exact skipLoop_list xs f c rest hc (by omega)
theorem skipLoop_members : ∀ (ms : List (Bytes × Json)) (f : Nat) (c : Tok) (rest : List Tok),
    (c = .arrClose ∨ c = .objClose) → 2 * (tokensMembers ms).length + 2 ≤ f →
    skipLoop f (tokensMembers ms ++ c :: rest) = .ok rest
  | [], _, _, rest, hc, h => skipLoop_close hc (Nat.le_of_add_left_le h) rest
  | _ :: _, 0, _, _, _, h => by omega
  | _ :: _, 1, _, _, _, h => by omega
  | (k, v) :: ms, f + 2, c, rest, hc, h => by
    rw [tokensMembers, List.length_cons, List.length_append] at h
    -- the member name is a value like any other to `skipLoop`
    rw [tokensMembers, List.cons_append, List.append_assoc, skipLoop_step (f := f + 1) rfl,
      skipLoop_step (skipValue_tokens v f _ (by omega))]
    exact skipLoop_members ms f c rest hc (by omega)
end

theorem tokensMembers_length : ∀ ms : List (Bytes × Json), 2 * ms.length ≤ (tokensMembers ms).length
  | [] => by simp [tokensMembers]
  | (k, v) :: ms => by
    have := tokensMembers_length ms
    have := tokens_pos v
    simp only [tokensMembers, List.length_cons, List.length_append]; omega

theorem keysLoop_members : ∀ (ms : List (Bytes × Json)) (f : Nat) (acc : List Bytes) (rest : List Tok),
    ms.length + 1 ≤ f →
    keysLoop f (tokensMembers ms ++ .objClose :: rest) acc = .ok (acc ++ ms.map (·.1))
  | _, 0, _, _, h => by omega
  | [], _ + 1, acc, _, _ => by rw [List.map_nil, List.append_nil]; rfl
  | (k, v) :: ms, f + 1, acc, rest, h => by
    rw [tokensMembers, List.cons_append, List.append_assoc, keysLoop,
      skipValue_tokens v _ _ (by rw [List.length_append]; omega)]
    exact (keysLoop_members ms f (acc ++ [k]) rest (Nat.le_of_succ_le_succ h)).trans (by simp)

/-- on the token stream of an object, `unmarshalKeys` leaves the member names in document order
    (duplicates included) -/
theorem unmarshalKeys_obj (ms : List (Bytes × Json)) :
    unmarshalKeys (tokens (.obj ms)) = .ok (ms.map (·.1)) := by
  have hl := tokensMembers_length ms
  rw [tokens, unmarshalKeys]
  exact keysLoop_members ms _ [] [] (by rw [List.length_append]; omega)

theorem unmarshalKeys_nonobj (j : Json) (h : ∀ ms, j ≠ .obj ms) : unmarshalKeys (tokens j) = .err := by
  cases j with
  | obj ms => exact absurd rfl (h ms)
  | _ => simp [tokens, unmarshalKeys]

/-- the token loops refine the tree-level ordered map: same verdict, same `Keys` -/
theorem fromJSONKeys_refines (j : Json) :
    fromJSONKeys j = (match EncJ.fromJSON j with
      | .ok m => .ok m.keys
      | _ => .err) := by
  unfold fromJSONKeys
  cases j with
  | obj ms => rw [unmarshalKeys_obj]; simp [EncJ.fromJSON]
  | _ => rw [unmarshalKeys_nonobj _ (by nofun)]; rfl

theorem keysLoop_fuel : ∀ (f : Nat) (ts : List Tok) (acc : List Bytes),
    ts.length + 1 ≤ f → keysLoop f ts acc ≠ .fuel
  | 0, _, _, h => by omega
  | _ + 1, [], _, _ => nofun
  | f + 1, t :: rest, acc, h => by
    rw [List.length_cons] at h
    cases t
    case str k =>
      rw [keysLoop]
      cases hv : skipValue (2 * rest.length + 2) rest with
      | ok rest' => exact keysLoop_fuel f rest' _ (by have := (skip_consumes _ rest).1 rest' hv; omega)
      | eos | err => nofun
      | fuel => exact absurd hv ((skip_fuel_enough _ rest).1 (by omega))
    all_goals nofun

theorem unmarshalKeys_total (ts : List Tok) : unmarshalKeys ts ≠ .fuel := by
  unfold unmarshalKeys
  split
  · nofun
  · exact keysLoop_fuel _ _ _ (by omega)
  · nofun

end Psa.Proofs.JTok
