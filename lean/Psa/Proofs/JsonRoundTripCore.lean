/-
  decode ∘ encode for the JSON claims codec, as `RoundTripCore.lean` does it for CBOR (namespace `JRT`): members in place
  of entries, one store per member (`combine_fld`);
  `names_table` is what the reader needs of the member names.
-/
import Psa.Spec.JsonShape
import Psa.Proofs.RoundTripCore
import Psa.Proofs.Base64
import Psa.Proofs.Assoc
namespace Psa.Proofs.JRT
open Psa Psa.Model Psa.Spec Psa.Proofs.RT

theorem noDupB_iff : ∀ l : List Bytes, noDupB l = true ↔ l.Nodup
  | [] => by simp [noDupB]
  | x :: xs => by simp [noDupB, noDupB_iff xs]

/-- names good for the model's JSON reader: ASCII, and distinct even ignoring case -/
def NamesGood (l : List Bytes) : Prop := (l.map lowerBytes).Nodup ∧ ∀ n ∈ l, ∀ b ∈ n, b.toNat < 128

theorem NamesGood.nodup {l : List Bytes} (h : NamesGood l) : l.Nodup :=
  (List.pairwise_map.mp h.1).imp fun hne e => hne (congrArg lowerBytes e)

theorem namesClean_members {F : Type} (fields : List F) (name : F → Bytes) (val : F → Option Json)
    (hg : NamesGood (fields.map name)) : namesClean (membersOf fields name val) = true := by
  have hs := membersOf_keys_sublist fields name val
  rw [namesClean, Bool.and_eq_true, noDupB_iff]
  refine ⟨List.map_map ▸ (hs.map lowerBytes).nodup hg.1, ?_⟩
  simp only [List.all_eq_true, decide_eq_true_eq]
  exact fun m hm => hg.2 m.1 (hs.subset (List.mem_map_of_mem hm))

theorem lookupMember_eq_some {ms : List (Bytes × Json)} (hnd : (ms.map Prod.fst).Nodup) {n : Bytes} {v : Json} :
    lookupMember ms n = some v ↔ (n, v) ∈ ms := by
  unfold lookupMember
  constructor
  · intro h
    obtain ⟨p, hp, rfl⟩ := Option.map_eq_some_iff.mp h
    have hk := List.find?_some hp
    exact eq_of_beq hk ▸ List.mem_of_find?_eq_some hp
  · intro h
    rw [find?_key hnd h]
    rfl

theorem lookup_members {F : Type} (fields : List F) (name : F → Bytes) (val : F → Option Json)
    (hnd : (fields.map name).Nodup) (f0 : F) (hf : f0 ∈ fields) :
    lookupMember (membersOf fields name val) (name f0) = val f0 := by
  apply Option.ext
  intro v
  rw [lookupMember_eq_some ((membersOf_keys_sublist fields name val).nodup hnd), mem_membersOf]
  constructor
  · rintro ⟨f, hf', hn, hv⟩; rwa [inj_of_nodup_map name fields hnd f0 hf f hf' hn]
  · exact fun hv => ⟨f0, hf, rfl, hv⟩

theorem lookup_absent {F : Type} (fields : List F) (name : F → Bytes) (val : F → Option Json) (n : Bytes)
    (h : n ∉ fields.map name) : lookupMember (membersOf fields name val) n = none := by
  rw [lookupMember, Option.map_eq_none_iff, List.find?_eq_none]
  intro x hx hxe
  rw [beq_iff_eq] at hxe
  exact h (hxe ▸ (membersOf_keys_sublist fields name val).subset (List.mem_map_of_mem hx))

theorem member_members {F : Type} (fields : List F) (name : F → Bytes) (val : F → Option Json)
    (hg : NamesGood (fields.map name)) (f0 : F) (hf : f0 ∈ fields) :
    member (membersOf fields name val) (name f0) = .ok (val f0) := by
  rw [member, lookup_members fields name val hg.nodup f0 hf]
  cases hv : val f0 with
  | some v => rfl
  | none =>
    -- a member whose name differs from that of `f0` at most in case is the member of `f0`, which has no value
    have : (membersOf fields name val).any (fun m => lowerBytes m.1 == lowerBytes (name f0)) = false := by
      rw [List.any_eq_false]
      intro m hm hme
      obtain ⟨g, hg', hn, hw⟩ := mem_membersOf.mp (show (m.1, m.2) ∈ _ from hm)
      rw [beq_iff_eq, hn] at hme
      have := inj_of_nodup_map (lowerBytes ∘ name) fields (List.map_map ▸ hg.1) g hg' f0 hf hme
      rw [this, hv] at hw; cases hw
    simp only [this]; rfl

/-- All that is needed of the member names, from one evaluation of the table, by the kernel alone (turning a name
    into bytes is what costs, and each name is turned once here): each object's names are good for the reader, and
    neither profile uses the other's profile member. -/
theorem names_table :
    NamesGood ((JField.of .p1).map (JField.name .p1)) ∧ NamesGood ((JField.of .p2).map (JField.name .p2)) ∧
    NamesGood (CField.all.map CField.name) ∧
    jP2Profile ∉ (JField.of .p1).map (JField.name .p1) ∧ jP1Profile ∉ (JField.of .p2).map (JField.name .p2) := by
  unfold NamesGood; decide +kernel

theorem p1_names_good : NamesGood ((JField.of .p1).map (JField.name .p1)) := names_table.1
theorem p2_names_good : NamesGood ((JField.of .p2).map (JField.name .p2)) := names_table.2.1
theorem comp_names_good : NamesGood (CField.all.map CField.name) := names_table.2.2.1

theorem jsonDoc_eq (c : Claims) : jsonDoc c = .obj (membersOf (JField.of c.prof) (JField.name c.prof) (jsonVal c)) := rfl

theorem combine_ok_cons (s : Claims) (g : Claims → Claims) (rs : List (Dec (Claims → Claims))) :
    combine s (.ok g :: rs) () = combine (g s) rs () := by
  simp only [combine, List.any_cons, List.foldl_cons, Bool.false_or]

/-- One member of the library's own document, read into the claims-set (the JSON counterpart of `RT.foldSet_store`):
    the field's decoder reads the member back as `x`; when there is no member `x` is the blank value `x0` (`h`), and
    storing that changes nothing because the field is still blank (`hnone`, by computation on the state). Then the
    member amounts to the store `put x`. -/
theorem combine_fld {F β : Type} {fields : List F} {name : F → Bytes} {val : F → Option Json}
    (hg : NamesGood (fields.map name)) (f0 : F) {n : Bytes} {dec : Json → Dec β} {put : β → Claims → Claims} {x x0 : β}
    {s : Claims} {rs : List (Dec (Claims → Claims))}
    (h : (∀ j, val f0 = some j → dec j = .ok x) ∧ (val f0 = none → x = x0))
    (hf : f0 ∈ fields := by decide) (hn : n = name f0 := by rfl) (hnone : put x0 s = s := by rfl) :
    combine s (fld (membersOf fields name val) n dec put :: rs) () = combine (put x s) rs () := by
  subst hn
  unfold fld
  rw [member_members fields name val hg f0 hf]
  cases hv : val f0 with
  | none => simp only []; rw [combine_ok_cons, h.2 hv, hnone]; rfl
  | some j => simp only [h.1 j hv, Dec.map, Dec.bind]; rw [combine_ok_cons]

/-- the usual case: the member is `enc` of the field's value, if it has one -/
theorem combine_fld_map {F α β : Type} {fields : List F} {name : F → Bytes} {val : F → Option Json}
    (hg : NamesGood (fields.map name)) (f0 : F) {n : Bytes} {dec : Json → Dec (Option β)}
    {put : Option β → Claims → Claims} {s : Claims} {rs : List (Dec (Claims → Claims))}
    (o : Option α) {enc : α → Json} {f : α → β} (hval : val f0 = o.map enc)
    (hrt : ∀ a, o = some a → dec (enc a) = .ok (some (f a)))
    (hf : f0 ∈ fields := by decide) (hn : n = name f0 := by rfl) (hnone : put none s = s := by rfl) :
    combine s (fld (membersOf fields name val) n dec put :: rs) () = combine (put (o.map f) s) rs () :=
  combine_fld hg f0 (readback_map hval hrt) hf hn hnone

theorem jDecBytes_jBytes (b : Bytes) : jDecBytes (jBytes b) = .ok (some b) := by
  simp [jDecBytes, jBytes, b64_roundtrip]

theorem jDecText_str (s : Bytes) : jDecText (.str s) = .ok (some s) := rfl

theorem jDecInt_int {lo hi : Int} (i : Int) (h1 : lo ≤ i) (h2 : i ≤ hi) : jDecInt lo hi (.int i) = .ok (some i) := by
  simp [jDecInt, h1, h2]

theorem jDecComp_compJson (sc : SwComp) : jDecComp (compJson sc) = .ok (some sc) := by
  have hm : compJson sc = .obj (membersOf CField.all CField.name (compJsonVal sc)) := rfl
  have m := member_members CField.all CField.name (compJsonVal sc) comp_names_good
  rw [hm, jDecComp, namesClean_members CField.all CField.name (compJsonVal sc) comp_names_good, Bool.not_true,
    if_neg Bool.false_ne_true]
  rw [show jMType = CField.name .mtype from rfl, m .mtype (by decide), show jMVal = CField.name .mval from rfl,
    m .mval (by decide), show jVersion = CField.name .version from rfl, m .version (by decide),
    show jSigner = CField.name .signer from rfl, m .signer (by decide), show jMDesc = CField.name .mdesc from rfl,
    m .mdesc (by decide)]
  -- the decoder's local `f` (no member: no field; a member: its decoder) is still a `let` here (`rw` above and `-zeta`
  -- keep it), so that what it reads back is said of it once, not by cases on the five fields
  simp -zeta only [Dec.bind, compJsonVal]
  extract_lets f
  have back : ∀ {α : Type} (o : Option α) {enc : α → Json} {dec : Json → Dec (Option α)},
      (∀ a, dec (enc a) = .ok (some a)) → f (o.map enc) dec = .ok o := by
    intro α o enc dec h
    cases o with
    | none => rfl
    | some a => exact h a
  rw [back sc.mtype jDecText_str, back sc.mval jDecBytes_jBytes, back sc.version jDecText_str,
    back sc.signer jDecBytes_jBytes, back sc.mdesc jDecText_str]

theorem decAll_jcomps (l : List SwComp) : decAll jDecComp (l.map compJson) = .ok (l.map some) :=
  decAll_map l fun sc _ => jDecComp_compJson sc

theorem jv_profile (c : Claims) : jsonVal c .profile = (profStr c.profile).map .str := profStr_map

theorem jv_nonce1 (c : Claims) (h : c.nonce = none ∨ ∃ b, c.nonce = some [b]) : jsonVal c .nonce = (single c.nonce).map jBytes := by
  simp only [jsonVal]
  rcases h with h | ⟨b, h⟩ <;> rw [h] <;> rfl

-- `Spec.jsonVal` maps `Json.int` over an `Option Nat`: Lean reads that as a map over the option lifted to `Option Int`
theorem jv_nat (o : Option Nat) : (Option.map (fun v : Int => Json.int v) (o : Option Int)) = o.map fun v : Nat => Json.int v := by
  cases o <;> rfl

theorem jDecSw_doc (c : Claims) (x : Option (List (Option SwComp))) :
    (∀ j, jsonVal c .sw = some j → jDecSw (.cont x) j = .ok (rtSw c.sw)) ∧ (jsonVal c .sw = none → rtSw c.sw = .cont none) := by
  unfold rtSw
  by_cases he : c.sw.elems.isEmpty = true
  · simp [jsonVal, he]
  · simp [jsonVal, he, jDecSw, jDecComps, decAll_jcomps, Dec.map, Dec.bind]

theorem p1_json_decode (u : Bytes → Dec Bytes) (c : Claims) (hp : c.prof = .p1) (hb : ClaimsBounded c)
    (hN : c.nonce = none ∨ ∃ b, c.nonce = some [b]) :
    unmarshalJSONInto u (Claims.new .p1) (jsonDoc c) = .ok (st1 c) := by
  obtain ⟨hClient, hLife, hNoSw, _⟩ := hb
  rw [jsonDoc_eq, hp]
  unfold unmarshalJSONInto
  simp only [namesClean_members _ _ _ p1_names_good, Bool.not_true, Bool.false_eq_true, if_false]
  show combine _ _ () = _
  dsimp only [Claims.new, st1]
  rw [hp]
  generalize p1Name = n
  refine (combine_fld_map p1_names_good .profile (profStr c.profile) (jv_profile c) (fun a _ => jDecText_str a)).trans ?_
  dsimp only
  refine (combine_fld_map p1_names_good .clientId c.clientId rfl
    (fun a ha => jDecInt_int a (hClient a ha).1 (hClient a ha).2)).trans ?_
  dsimp only
  refine (combine_fld_map p1_names_good .lifecycle c.lifecycle (jv_nat c.lifecycle)
    (fun a ha => jDecInt_int a (by omega) (by have := hLife a ha; omega))).trans ?_
  dsimp only
  refine (combine_fld_map p1_names_good .implId c.implId rfl (fun a _ => jDecBytes_jBytes a)).trans ?_
  dsimp only
  refine (combine_fld_map p1_names_good .bootSeed c.bootSeed rfl (fun a _ => jDecBytes_jBytes a)).trans ?_
  dsimp only
  refine (combine_fld_map p1_names_good .certRef c.certRef rfl (fun a _ => jDecText_str a)).trans ?_
  dsimp only
  refine (combine_fld p1_names_good .sw (jDecSw_doc c none)).trans ?_
  dsimp only
  refine (combine_fld_map p1_names_good .noSw c.noSw (jv_nat c.noSw)
    (fun a ha => jDecInt_int a (by omega) (by have := hNoSw a ha; omega))).trans ?_
  dsimp only
  refine (combine_fld_map p1_names_good .nonce (single c.nonce) (jv_nonce1 c hN) (fun a _ => jDecBytes_jBytes a)).trans ?_
  dsimp only
  refine (combine_fld_map p1_names_good .instId c.instId rfl (fun a _ => jDecBytes_jBytes a)).trans ?_
  dsimp only
  refine (combine_fld_map p1_names_good .vsi c.vsi rfl (fun a _ => jDecText_str a)).trans ?_
  simp only [combine, toNat_cast_map, Option.map_id']
  rfl

theorem jv_nonce2 (c : Claims) : jsonVal c .nonce = nonceForm jBytes .arr c.nonce := nonceForm_eq

theorem decAll_jnonces (l : List Bytes) : decAll jDecNonceElem (l.map jBytes) = .ok l :=
  (decAll_map (dec := jDecNonceElem) (enc := jBytes) (f := id) l fun b _ => by
    simp [jDecNonceElem, jBytes, b64_roundtrip]).trans (by rw [List.map_id])

theorem jDecEatNonce_wire (n : Option (List Bytes)) {o : Option Json} (ho : o = nonceForm jBytes .arr n) :
    (∀ j, o = some j → jDecEatNonce j = .ok (nonceRt n)) ∧ (o = none → nonceRt n = none) :=
  nonceForm_back (dec := jDecEatNonce)
    (fun b => by simp [jDecEatNonce, jDecNonceElem, jBytes, b64_roundtrip, Dec.map, Dec.bind])
    (fun l => by simp only [jDecEatNonce, decAll_jnonces l, Dec.map, Dec.bind]) n ho

theorem jDecEatProfile_str (u : Bytes → Dec Bytes) (s : Bytes) (hu : u s = .ok s) :
    jDecEatProfile u (.str s) = .ok (some (.str s)) := by
  simp [jDecEatProfile, hu]

theorem p2_json_decode (u : Bytes → Dec Bytes) (c : Claims) (hp : c.prof = .p2) (hb : ClaimsBounded c)
    (hu : ∀ s, profStr c.profile = some s → u s = .ok s) :
    unmarshalJSONInto u (Claims.new .p2) (jsonDoc c) = .ok (st2 c) := by
  obtain ⟨hClient, hLife, _⟩ := hb
  rw [jsonDoc_eq, hp]
  unfold unmarshalJSONInto
  simp only [namesClean_members _ _ _ p2_names_good, Bool.not_true, Bool.false_eq_true, if_false]
  show combine _ _ () = _
  dsimp only [Claims.new, st2]
  rw [hp]
  generalize p2Name = n
  refine (combine_fld_map p2_names_good .profile (profStr c.profile) (jv_profile c)
    (fun a ha => jDecEatProfile_str u a (hu a ha))).trans ?_
  dsimp only
  refine (combine_fld_map p2_names_good .clientId c.clientId rfl
    (fun a ha => jDecInt_int a (hClient a ha).1 (hClient a ha).2)).trans ?_
  dsimp only
  refine (combine_fld_map p2_names_good .lifecycle c.lifecycle (jv_nat c.lifecycle)
    (fun a ha => jDecInt_int a (by omega) (by have := hLife a ha; omega))).trans ?_
  dsimp only
  refine (combine_fld_map p2_names_good .implId c.implId rfl (fun a _ => jDecBytes_jBytes a)).trans ?_
  dsimp only
  refine (combine_fld_map p2_names_good .bootSeed c.bootSeed rfl (fun a _ => jDecBytes_jBytes a)).trans ?_
  dsimp only
  refine (combine_fld_map p2_names_good .certRef c.certRef rfl (fun a _ => jDecText_str a)).trans ?_
  dsimp only
  refine (combine_fld p2_names_good .sw (jDecSw_doc c none)).trans ?_
  dsimp only
  refine (combine_fld p2_names_good .nonce (jDecEatNonce_wire c.nonce (jv_nonce2 c))).trans ?_
  dsimp only
  refine (combine_fld_map p2_names_good .instId c.instId rfl (fun a _ => jDecBytes_jBytes a)).trans ?_
  dsimp only
  refine (combine_fld_map p2_names_good .vsi c.vsi rfl (fun a _ => jDecText_str a)).trans ?_
  simp only [combine, toNat_cast_map, Option.map_id']
  rfl

end Psa.Proofs.JRT
