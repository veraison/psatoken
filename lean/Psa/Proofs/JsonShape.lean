/- The JSON encoder emits the documented form (helpers for C12). -/
import Psa.Spec.JsonShape
import Psa.Proofs.Wire
namespace Psa.Proofs
open Psa Psa.Model Psa.Spec

theorem comp_toJson_eq (sc : SwComp) (h : CompOK sc) : sc.toJson = compJson sc := by
  obtain ⟨mt, mval, ver, sig, md⟩ := sc
  obtain ⟨⟨mv, rfl, _⟩, ⟨sg, rfl, _⟩⟩ := h
  cases mt <;> cases ver <;> cases md <;> rfl

theorem sw_toJson_eq (l : List SwComp) (h : ∀ sc ∈ l, CompOK sc) :
    swToJson (.cont (some (l.map some))) = .arr (((l.map some).filterMap id).map compJson) := by
  rw [filterMap_map_some, swToJson, List.map_map]
  exact congrArg Json.arr (List.map_congr_left fun sc hsc => comp_toJson_eq sc (h sc hsc))

theorem members_cons {F : Type} (name : F → Bytes) (val : F → Option Json) (f : F) (fs : List F) :
    (f :: fs).filterMap (fun f => (val f).map fun v => (name f, v)) =
      jOmit (name f) (val f) ++ fs.filterMap (fun f => (val f).map fun v => (name f, v)) := by
  cases h : val f <;> simp [jOmit, h]

theorem jOmit_some (n : Bytes) (v : Json) : jOmit n (some v) = [(n, v)] := rfl

theorem encode_json (c : Claims) (h : validate c = .ok ()) : encodeJSON c = .ok (jsonDoc c) := by
  have h := (validate_iff_conformant c).mp h
  obtain ⟨prof, canonical, profile, clientId, lifecycle, implId, bootSeed, certRef, sw, noSw, nonce, instId, vsi⟩ := c
  cases prof <;> simp only [Conformant] at h
  · obtain ⟨_, h2, ⟨lc, rfl, _⟩, ⟨im, rfl, _⟩, ⟨bs, rfl, _⟩, _, h7, ⟨n, rfl, _⟩, ⟨ins, rfl, _⟩, _⟩ := h
    obtain ⟨cid, rfl⟩ := Option.ne_none_iff_exists'.mp h2
    have hsw := sw_omit (enc := swToJson) (w := fun l => Json.arr (l.map compJson)) sw_toJson_eq sw (h7.imp And.left And.left)
    simp only [encodeJSON, p1ToJson, jsonDoc, jsonMembers, JField.of, members_cons, List.filterMap_nil]
    simp [jsonVal, jOmit_some, jOptBytes, jOptInt, jOptNat, hsw, JField.name, jP1Profile, jClientId, jLifecycle, jImplId,
      jBootSeed, jP1CertRef, jSw, jNoSw, jNonce, jInstId, jVsi]
    rfl
  · obtain ⟨rfl, h2, ⟨lc, rfl, _⟩, ⟨im, rfl, _⟩, _, _, hco, ⟨n, rfl, hn⟩, ⟨ins, rfl, _⟩, _⟩ := h
    obtain ⟨cid, rfl⟩ := Option.ne_none_iff_exists'.mp h2
    obtain ⟨l, hne, rfl, hall⟩ := sw_of_componentsOK sw hco
    simp only [encodeJSON, p2ToJson, jsonDoc, jsonMembers, JField.of, members_cons, List.filterMap_nil,
      hashLen_nonceOK n hn, sw_toJson_eq l hall]
    simp [jsonVal, jOmit_some, jOptBytes, jOptInt, jOptNat, hne, Outcome.bind, heldComps, SwField.elems, JField.name,
      jP2Profile, jClientId, jLifecycle, jImplId, jBootSeed, jP2CertRef, jSw, jNonce, jInstId, jVsi]

end Psa.Proofs
