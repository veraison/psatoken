/- Proofs about the profile-field walk (`Psa/Model/ProfileTag.lean`). -/
import Psa.Model.ProfileTag
namespace Psa.Proofs.PTag
open Psa Psa.Model.PTag

theorem ownField_none : ∀ (fs : FList) (acc : Option Field), hasProfileF fs = false → ownField fs acc = acc
  | .nil, acc, _ => rfl
  | .cons f v rest, acc, h => by
    simp only [hasProfileF, Bool.or_eq_false_iff] at h
    have ih := ownField_none rest acc h.2
    unfold ownField
    rcases hc : collect f v with ⟨b, o⟩
    rw [hc] at h
    cases b with
    | true => simp [ih]
    | false =>
      have h1 : f.isProfile = false := by cases o <;> simpa using h.1
      unfold Field.isProfile at h1
      cases hk : f.cborKey with
      | some k => rw [hk] at h1; simp only at h1; simp [h1, ih]
      | none => rw [hk] at h1; simp only at h1; simp [h1, ih]

mutual
theorem tag_noProfile : ∀ d : TDesc, hasProfile d = false → tagOf d = .noProfile
  | .struct fs, h => by
    simp only [hasProfile] at h
    simp only [tagOf, ownField_none fs none h]
    exact embeds_noProfile fs h
  -- `tagOf` and `hasProfile` have the same arm for a struct and for a pointer to it
  | .ptr (.struct fs), h => tag_noProfile (.struct fs) h
  | .ptr (.ptr _), _ | .ptr .nilptr, _ | .ptr .invalid, _ | .ptr .other, _ => by simp [tagOf]
  | .nilptr, _ | .invalid, _ | .other, _ => by simp [tagOf]
theorem embeds_noProfile : ∀ fs : FList, hasProfileF fs = false → embedsTag fs = .noProfile
  | .nil, _ => rfl
  | .cons f v rest, h => by
    simp only [hasProfileF, Bool.or_eq_false_iff] at h
    have ih := embeds_noProfile rest h.2
    unfold embedsTag
    rcases hc : collect f v with ⟨b, o⟩
    rw [hc] at h
    cases b <;> cases o <;> simp only [ih]
    rw [tag_noProfile v (by simpa using h.1)]
end

mutual
theorem tag_total : ∀ d : TDesc, tagOf d ≠ .panic
  | .struct fs => by
    simp only [tagOf]
    split
    · split <;> simp
    · exact embeds_total fs
  | .ptr (.struct fs) => tag_total (.struct fs)
  | .ptr (.ptr _) | .ptr .nilptr | .ptr .invalid | .ptr .other => by simp [tagOf]
  | .nilptr | .invalid | .other => by simp [tagOf]
theorem embeds_total : ∀ fs : FList, embedsTag fs ≠ .panic
  | .nil => by simp [embedsTag]
  | .cons f v rest => by
    unfold embedsTag
    split
    · split
      · exact embeds_total rest
      · exact tag_total v
    · exact embeds_total rest
end

theorem get_noProfile (d : TDesc) (h : hasProfile d = false) (h' : ∀ e, d = .ptr e → hasProfile e = false) :
    getProfileJSONTag d = .noProfile := by
  unfold getProfileJSONTag
  split
  · exact tag_noProfile _ (h' _ rfl)
  · exact tag_noProfile _ h

end Psa.Proofs.PTag
