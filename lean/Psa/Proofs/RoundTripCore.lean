/-
  decode ∘ encode for the CBOR claims codec (namespace `RT`).  The typed decoder applied to the library's own encoding is
  a sequence of stores, one per key of the wire token (`foldSet`, `foldSet_store`); `p1_fold` / `p2_fold` walk the keys of
  a profile.  `st1` / `st2` name the state such a walk ends in, `rt c` the claims-set as it comes back: the components
  in a fresh container, everything else as it was.
-/
import Psa.Proofs.WireShape
import Psa.Proofs.StructStep
import Psa.Proofs.Dec
import Psa.Spec.Conformant
namespace Psa.Proofs.RT
open Psa Psa.Model Psa.Spec

/-- the stores a well-formed wire token causes, in key order; fails as soon as one store fails -/
def foldSet {σ} (fk : List Int) (set : σ → Int → Cbor → Dec σ) (val : Int → Option Cbor) : List Int → σ → Dec σ
  | [], s => .ok s
  | k :: ks, s =>
    (match val k with
     | none => Dec.ok s
     | some v => if fk.contains k then set s k v else .ok s).bind (foldSet fk set val ks)

theorem structStep_cInt {σ} (fk : List Int) (set : σ → Int → Cbor → Dec σ) (s : DState σ) (k : Int) (v : Cbor)
    (hk : Enc.Int64 k) :
    structStep fk set s (cInt k, v) = if fk.contains k then Perm.put set s k v else s := by
  rw [Perm.structStep_eq, Perm.sel_of_key fk v (by rw [keyRes_cInt k hk]; nofun), keyRes_cInt k hk, selectField]
  cases fk.contains k <;> rfl

theorem structFold_entriesOf {σ} (fk : List Int) (set : σ → Int → Cbor → Dec σ) (val : Int → Option Cbor) :
    ∀ (keys : List Int) (s : DState σ) (r : σ), keys.Nodup → (∀ k ∈ keys, Enc.Int64 k) → (∀ k ∈ keys, k ∉ s.found) →
      foldSet fk set val keys s.val = .ok r →
      ∃ fd, (entriesOf keys val).foldl (structStep fk set) s = { s with val := r, found := fd }
  | [], s, r, _, _, _, h => by cases h; exact ⟨s.found, rfl⟩
  | k :: ks, s, r, hnd, hr, hf, h => by
    rw [List.nodup_cons] at hnd
    have ih := fun s' => structFold_entriesOf fk set val ks s' r hnd.2 fun x hx => hr x (List.mem_cons_of_mem k hx)
    have hf' := fun x hx => hf x (List.mem_cons_of_mem k hx)
    rw [entriesOf_cons]
    cases hv : val k with
    | none => simp only [foldSet, hv] at h; exact ih s hf' h
    | some v =>
      rw [kvOmit_some, List.singleton_append, List.foldl_cons, structStep_cInt fk set s k v (hr k List.mem_cons_self)]
      by_cases hc : fk.contains k = true
      · rw [if_pos hc, Perm.put, if_neg (hf k List.mem_cons_self)]
        simp only [foldSet, hv, hc, if_true] at h
        obtain ⟨s', hs, h⟩ := Dec.bind_eq_ok.mp h
        rw [hs]
        exact ih _ (fun x hx => List.not_mem_cons_of_ne_of_not_mem (fun e => hnd.1 (e ▸ hx)) (hf' x hx)) h
      · simp only [foldSet, hv, hc] at h
        rw [if_neg hc]; exact ih s hf' h

/-- decoding a wire token (entries under distinct integer keys, in any key order) is the sequence of its stores -/
theorem structDecode_entriesOf {σ} (fk : List Int) (set : σ → Int → Cbor → Dec σ) (val : Int → Option Cbor)
    (keys : List Int) (init r : σ) (hnd : keys.Nodup) (hr : ∀ k ∈ keys, Enc.Int64 k)
    (h : foldSet fk set val keys init = .ok r) : structDecode fk set init (entriesOf keys val) = .ok r := by
  obtain ⟨fd, h1⟩ := structFold_entriesOf fk set val keys { val := init, found := [], bad := false, ood := false } r
    hnd hr (fun _ _ => List.not_mem_nil) h
  rw [structDecode, h1]; rfl

theorem validUTF8_ascii : ∀ l : Bytes, (∀ b ∈ l, b.toNat < 128) → validUTF8 l = true
  | [], _ => by simp [validUTF8]
  | b :: l, h => by
    have ih := validUTF8_ascii l fun x hx => h x (List.mem_cons_of_mem b hx)
    unfold validUTF8
    simp [h b List.mem_cons_self, ih]

theorem decText_tstr (s : Bytes) (h : validUTF8 s = true) : decText (.tstr s) = .ok (some s) := by
  simp [decText, h]

theorem decBytes_bstr (b : Bytes) : decBytesVal (.bstr b) = .ok (some b) := rfl

theorem decInt_uint (hi : Int) (v : Nat) (h : (v : Int) ≤ hi) : decIntRange 0 hi (.uint v) = .ok (some (v : Int)) := by
  simp [decIntRange, h]

/-- all free-text fields of a component are valid UTF-8 (what the decoder insists on; recorded finding D10 is the
    claims-set that violates this) -/
def CompTextOK (sc : SwComp) : Prop :=
  (∀ s, sc.mtype = some s → validUTF8 s = true) ∧ (∀ s, sc.version = some s → validUTF8 s = true) ∧
  (∀ s, sc.mdesc = some s → validUTF8 s = true)

theorem foldSet_step {σ : Type} {fk : List Int} {set : σ → Int → Cbor → Dec σ} {val : Int → Option Cbor} {k : Int}
    {ks : List Int} {s : σ} (s' : σ) (hk : fk.contains k = true) (hsome : ∀ v, val k = some v → set s k v = .ok s')
    (hnone : val k = none → s' = s) : foldSet fk set val (k :: ks) s = foldSet fk set val ks s' := by
  rw [foldSet]
  cases hv : val k with
  | none => rw [hnone hv]; rfl
  | some v => simp only [hk, if_true, hsome v hv, Dec.bind]

/-- One key of a wire token, read into a struct. The setter at `k` decodes with `dec` and stores with `put` (`hset`,
    by unfolding the setter at the literal key: this is where `dec` and `put` come from); `dec` reads the entry under
    `k` back as `x`; when there is no entry `x` is the blank value `x0` (`h`), and storing that changes nothing because
    the field is still blank (`hnone`, by computation on the state, which comes from the goal). Then the key amounts
    to the store `put x`. -/
theorem foldSet_store {σ β : Type} {fk : List Int} {set : σ → Int → Cbor → Dec σ} {val : Int → Option Cbor} {k : Int}
    {ks : List Int} {s : σ} {dec : Cbor → Dec β} {put : β → σ} {x x0 : β}
    (h : (∀ v, val k = some v → dec v = .ok x) ∧ (val k = none → x = x0))
    (hset : ∀ v, set s k v = (dec v).map put := by intro; rfl) (hk : fk.contains k = true := by decide)
    (hnone : put x0 = s := by rfl) :
    foldSet fk set val (k :: ks) s = foldSet fk set val ks (put x) :=
  foldSet_step (put x) hk (fun v hv => by rw [hset, h.1 v hv]; rfl) (fun hv => by rw [h.2 hv, hnone])

/-- an optional field written as `o.map enc`, where `dec` reads `enc a` back as `f a`: what is read back is `o.map f`,
    and the blank value when nothing was written (the form in which `foldSet_store` and its JSON counterpart take it) -/
theorem readback_map {α β γ : Type} {x : Option γ} {o : Option α} {enc : α → γ} {f : α → β} {dec : γ → Dec (Option β)}
    (hval : x = o.map enc) (hrt : ∀ a, o = some a → dec (enc a) = .ok (some (f a))) :
    (∀ v, x = some v → dec v = .ok (o.map f)) ∧ (x = none → o.map f = none) := by
  subst hval
  cases o with
  | none => exact ⟨nofun, fun _ => rfl⟩
  | some a => exact ⟨fun v hv => by cases hv; exact hrt a rfl, nofun⟩

theorem foldSet_store_map {σ α β : Type} {fk : List Int} {set : σ → Int → Cbor → Dec σ} {val : Int → Option Cbor}
    {k : Int} {ks : List Int} {s : σ} {dec : Cbor → Dec (Option β)} {put : Option β → σ} (o : Option α)
    {enc : α → Cbor} {f : α → β} (hval : val k = o.map enc) (hrt : ∀ a, o = some a → dec (enc a) = .ok (some (f a)))
    (hset : ∀ v, set s k v = (dec v).map put := by intro; rfl) (hk : fk.contains k = true := by decide)
    (hnone : put none = s := by rfl) :
    foldSet fk set val (k :: ks) s = foldSet fk set val ks (put (o.map f)) :=
  foldSet_store (readback_map hval hrt) hset hk hnone

theorem toNat_cast_map (o : Option Nat) : (o.map (Nat.cast : Nat → Int)).map Int.toNat = o := by cases o <;> rfl

theorem decCompElem_compWire (sc : SwComp) (ht : CompTextOK sc) : decCompElem (compWire sc) = .ok (some sc) := by
  obtain ⟨t1, t2, t3⟩ := ht
  have hfold : foldSet compKeys setComp (compWireVal sc) compKeyOrder emptyComp = .ok sc := by
    unfold compKeyOrder emptyComp
    refine (foldSet_store_map sc.mtype rfl (fun a ha => decText_tstr a (t1 a ha))).trans ?_
    dsimp only
    refine (foldSet_store_map sc.mval rfl (fun a _ => decBytes_bstr a)).trans ?_
    dsimp only
    refine (foldSet_store_map sc.version rfl (fun a ha => decText_tstr a (t2 a ha))).trans ?_
    dsimp only
    refine (foldSet_store_map sc.signer rfl (fun a _ => decBytes_bstr a)).trans ?_
    dsimp only
    refine (foldSet_store_map sc.mdesc rfl (fun a ha => decText_tstr a (t3 a ha))).trans ?_
    simp only [foldSet, Option.map_id']
  rw [compWire, decCompElem,
    structDecode_entriesOf compKeys setComp (compWireVal sc) compKeyOrder emptyComp sc (by decide) compKeyOrder_i64 hfold]
  rfl

theorem decAll_map {α β γ : Type} {dec : γ → Dec β} {enc : α → γ} {f : α → β} :
    ∀ l : List α, (∀ a ∈ l, dec (enc a) = .ok (f a)) → decAll dec (l.map enc) = .ok (l.map f)
  | [], _ => rfl
  | a :: l, h => by
    rw [List.map_cons, decAll, h a List.mem_cons_self, decAll_map l fun x hx => h x (List.mem_cons_of_mem a hx)]
    rfl

theorem decAll_comps (l : List SwComp) (h : ∀ sc ∈ l, CompTextOK sc) :
    decAll decCompElem (l.map compWire) = .ok (l.map some) :=
  decAll_map l fun sc hsc => decCompElem_compWire sc (h sc hsc)

def TextOK (c : Claims) : Prop :=
  (∀ s, c.profile = some (.str s) → validUTF8 s = true) ∧ (∀ s, c.certRef = some s → validUTF8 s = true) ∧
  (∀ s, c.vsi = some s → validUTF8 s = true) ∧ (∀ sc ∈ heldComps c.sw, CompTextOK sc)

/-- what the component field looks like after a round trip: the same components in a fresh container -/
def rtSw (f : SwField) : SwField := if f.elems.isEmpty then .cont none else .cont (some ((heldComps f).map some))

def rt (c : Claims) : Claims := { c with sw := rtSw c.sw }

def st1 (c : Claims) : Claims :=
  { c with canonical := p1Name, profile := (profStr c.profile).map .str, sw := rtSw c.sw,
           nonce := (single c.nonce).map fun b => [b] }

theorem decSw_wire (f : SwField) (x : Option (List (Option SwComp))) (ht : ∀ sc ∈ heldComps f, CompTextOK sc)
    {o : Option Cbor} (ho : o = if f.elems.isEmpty then none else some (compsWire (heldComps f))) :
    (∀ v, o = some v → decSwField (.cont x) v = .ok (rtSw f)) ∧ (o = none → rtSw f = .cont none) := by
  subst ho
  unfold rtSw
  by_cases he : f.elems.isEmpty = true
  · simp [he]
  · simp [he, decSwField, compsWire, decCompsVal, decAll_comps _ ht, Dec.map, Dec.bind]

theorem p1_fold (c : Claims) (hp : c.prof = .p1) (hb : ClaimsBounded c) (ht : TextOK c) :
    foldSet p1Keys setP1 (wireVal c) p1KeyOrder { (Claims.new .p1) with profile := none } = .ok (st1 c) := by
  obtain ⟨hClient, hLife, hNoSw, _⟩ := hb
  obtain ⟨t1, t2, t3, t4⟩ := ht
  unfold p1KeyOrder
  dsimp only [Claims.new, st1]
  rw [hp]
  -- the profile name in the state plays no part in the walk; as a variable it cannot be evaluated (which is dear)
  -- when a step compares two states
  generalize p1Name = n
  refine (foldSet_store_map (profStr c.profile) (wv1_0 c hp)
    (fun a ha => decText_tstr a (t1 a (profStr_some.mp ha)))).trans ?_
  dsimp only
  refine (foldSet_store_map c.clientId (wv1_1 c hp)
    (fun a ha => decInt_cInt _ _ a (hClient a ha).1 (hClient a ha).2 (by omega))).trans ?_
  dsimp only
  refine (foldSet_store_map c.lifecycle (wv1_2 c hp) (fun a ha => decInt_uint 65535 a (by have := hLife a ha; omega))).trans ?_
  dsimp only
  refine (foldSet_store_map c.implId (wv1_3 c hp) (fun a _ => decBytes_bstr a)).trans ?_
  dsimp only
  refine (foldSet_store_map c.bootSeed (wv1_4 c hp) (fun a _ => decBytes_bstr a)).trans ?_
  dsimp only
  refine (foldSet_store_map c.certRef (wv1_5 c hp) (fun a ha => decText_tstr a (t2 a ha))).trans ?_
  dsimp only
  refine (foldSet_store (decSw_wire c.sw none t4 (wv1_6 c hp))).trans ?_
  dsimp only
  refine (foldSet_store_map c.noSw (wv1_7 c hp)
    (fun a ha => decInt_uint 18446744073709551615 a (by have := hNoSw a ha; omega))).trans ?_
  dsimp only
  refine (foldSet_store_map (single c.nonce) (wv1_8 c hp) (fun a _ => decBytes_bstr a)).trans ?_
  dsimp only
  refine (foldSet_store_map c.instId (wv1_9 c hp) (fun a _ => decBytes_bstr a)).trans ?_
  dsimp only
  refine (foldSet_store_map c.vsi (wv1_10 c hp) (fun a ha => decText_tstr a (t3 a ha))).trans ?_
  simp only [foldSet, toNat_cast_map, Option.map_id']

/-- an empty nonce list is not emitted, so it comes back absent -/
def nonceRt : Option (List Bytes) → Option (List Bytes)
  | some [] => none
  | x => x

-- profile 2 has no key for the "no measurements" flag, so none comes back
def st2 (c : Claims) : Claims :=
  { c with canonical := p2Name, profile := (profStr c.profile).map .str, sw := rtSw c.sw, noSw := none,
           nonce := nonceRt c.nonce }

theorem decAll_nonces (l : List Bytes) : decAll decNonceElem (l.map .bstr) = .ok l :=
  (decAll_map (dec := decNonceElem) (enc := .bstr) (f := id) l fun _ _ => rfl).trans (by rw [List.map_id])

/-- a decoder that takes a bare nonce for a list of one and an array of nonces for the list reads `nonceForm` back -/
theorem nonceForm_back {γ : Type} {one : Bytes → γ} {arr : List γ → γ} {dec : γ → Dec (Option (List Bytes))}
    (h1 : ∀ b, dec (one b) = .ok (some [b])) (hm : ∀ l, dec (arr (l.map one)) = .ok (some l))
    (n : Option (List Bytes)) {o : Option γ} (ho : o = nonceForm one arr n) :
    (∀ v, o = some v → dec v = .ok (nonceRt n)) ∧ (o = none → nonceRt n = none) := by
  subst ho
  match n with
  | none | some [] => exact ⟨nofun, fun _ => rfl⟩
  | some [a] => exact ⟨fun v h => by cases h; exact h1 a, nofun⟩
  | some (a :: b :: r) => exact ⟨fun v h => by cases h; exact hm _, nofun⟩

theorem decEatNonce_wire (n : Option (List Bytes)) {o : Option Cbor} (ho : o = nonceForm .bstr .arr n) :
    (∀ v, o = some v → decEatNonce v = .ok (nonceRt n)) ∧ (o = none → nonceRt n = none) :=
  nonceForm_back (dec := decEatNonce) (fun _ => rfl)
    (fun l => by simp only [decEatNonce, decAll_nonces l, Dec.map, Dec.bind]) n ho

theorem decEatProfile_tstr (u : Bytes → Dec Bytes) (s : Bytes) (hs : validUTF8 s = true) (hu : u s = .ok s) :
    decEatProfile u (.tstr s) = .ok (some (.str s)) := by
  simp [decEatProfile, hs, hu, Dec.map, Dec.bind]

theorem p2_fold (u : Bytes → Dec Bytes) (c : Claims) (hp : c.prof = .p2) (hb : ClaimsBounded c) (ht : TextOK c)
    (hu : ∀ s, profStr c.profile = some s → u s = .ok s) :
    foldSet p2Keys (setP2 u) (wireVal c) p2KeyOrder { (Claims.new .p2) with profile := none } = .ok (st2 c) := by
  obtain ⟨hClient, hLife, _⟩ := hb
  obtain ⟨t1, t2, t3, t4⟩ := ht
  unfold p2KeyOrder
  dsimp only [Claims.new, st2]
  rw [hp]
  generalize p2Name = n
  refine (foldSet_store_map (profStr c.profile) (wv2_0 c hp)
    (fun a ha => decEatProfile_tstr u a (t1 a (profStr_some.mp ha)) (hu a ha))).trans ?_
  dsimp only
  refine (foldSet_store_map c.clientId (wv2_1 c hp)
    (fun a ha => decInt_cInt _ _ a (hClient a ha).1 (hClient a ha).2 (by omega))).trans ?_
  dsimp only
  refine (foldSet_store_map c.lifecycle (wv2_2 c hp) (fun a ha => decInt_uint 65535 a (by have := hLife a ha; omega))).trans ?_
  dsimp only
  refine (foldSet_store_map c.implId (wv2_3 c hp) (fun a _ => decBytes_bstr a)).trans ?_
  dsimp only
  refine (foldSet_store_map c.bootSeed (wv2_4 c hp) (fun a _ => decBytes_bstr a)).trans ?_
  dsimp only
  refine (foldSet_store_map c.certRef (wv2_5 c hp) (fun a ha => decText_tstr a (t2 a ha))).trans ?_
  dsimp only
  refine (foldSet_store (decSw_wire c.sw none t4 (wv2_6 c hp))).trans ?_
  dsimp only
  refine (foldSet_store (decEatNonce_wire c.nonce (wv2_7 c hp))).trans ?_
  dsimp only
  refine (foldSet_store_map c.instId (wv2_8 c hp) (fun a _ => decBytes_bstr a)).trans ?_
  dsimp only
  refine (foldSet_store_map c.vsi (wv2_9 c hp) (fun a ha => decText_tstr a (t3 a ha))).trans ?_
  simp only [foldSet, toNat_cast_map, Option.map_id']

/-- on a conformant claims-set of a built-in profile the read-back value is the claims-set in a fresh container: the
    profile claim and the single nonce read back as themselves, the other fields are those of `c` -/
theorem st1_rt (c : Claims) (hp : c.prof = .p1) (hcan : c.canonical = p1Name) (hc : Conformant c) : st1 c = rt c := by
  unfold Conformant at hc
  rw [hp] at hc
  obtain ⟨hprof, _, _, _, _, _, _, ⟨n, hn, _⟩, _⟩ := hc
  have e1 : (profStr c.profile).map .str = c.profile := by rcases hprof with h | h <;> rw [h] <;> rfl
  have e2 : (single c.nonce).map (fun b => [b]) = c.nonce := by rw [hn]; rfl
  rw [st1, e1, e2, ← hcan]; rfl

theorem st2_rt (c : Claims) (hp : c.prof = .p2) (hcan : c.canonical = p2Name) (hns : c.noSw = none) (hc : Conformant c) :
    st2 c = rt c := by
  unfold Conformant at hc
  rw [hp] at hc
  obtain ⟨hprof, _, _, _, _, _, _, ⟨n, hn, _⟩, _⟩ := hc
  have e1 : (profStr c.profile).map .str = c.profile := by rw [hprof]; rfl
  have e2 : nonceRt c.nonce = c.nonce := by rw [hn]; rfl
  rw [st2, e1, e2, ← hcan, ← hns]; rfl

end Psa.Proofs.RT
