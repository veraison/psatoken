/-
  The lifecycle table.  `Spec.state_code` turns the high-byte specification into one arithmetic
  expression; every code-shaped chain of range tests (the model's here, the regenerated one in
  `Psa/Tie/Lifecycle.lean`) is compared with the specification through it.
-/
import Psa.Spec.Lifecycle
import Psa.Model.Lifecycle
import Psa.Proofs.Outcome
namespace Psa
open Psa

/-- The seven valid ranges are the first 256 values of the 4096-blocks 0..6, and the code of a
    range is the number of its block. -/
theorem Spec.state_code (v : Nat) :
    (Spec.state v).code = if v % 4096 ≤ 255 ∧ v / 4096 < 7 then v / 4096 else 7 := by
  unfold Spec.state
  grind [Spec.LState.code]

namespace Proofs

theorem lifeCycleToState_spec (v : Nat) : Model.lifeCycleToState v = (Spec.state v).code := by
  rw [Spec.state_code]; unfold Model.lifeCycleToState
  grind

theorem validateSecurityLifeCycle_eq (v : Nat) :
    Model.validateSecurityLifeCycle v = if Spec.state v ≠ .invalid then .ok () else .err eWrongSyntax := by
  unfold Model.validateSecurityLifeCycle
  rw [lifeCycleToState_spec]
  cases Spec.state v <;> rfl

end Proofs
end Psa
