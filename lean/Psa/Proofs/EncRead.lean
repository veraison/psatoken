/- The hand-written CBOR map reader on what the writer wrote: the ordered-map invariant, one key/value step on a written
   entry is an `Add`, `FromCBOR ∘ ToCBOR`, duplicate keys (helpers for C15). -/
import Psa.Proofs.EncTotal
import Psa.Proofs.FieldMap
import Psa.Proofs.IntItem
import Psa.Cbor.Head
namespace Psa.Proofs.Enc
open Psa Psa.Model Psa.Model.Enc

/-- `Keys` and `Fields` agree, and no key occurs twice -/
structure OMInv (m : OMap) : Prop where
  agree : m.keys = m.fields.map (·.1)
  nodup : m.keys.Nodup

theorem cborMap : IsFieldMap OMap.keys OMap.fields OMap.mk OMap.has OMap.get OMap.add OMap.delete :=
  ⟨fun _ _ => rfl, fun _ _ => rfl, fun _ => rfl, fun _ _ => rfl, fun _ _ => rfl, fun _ _ _ => rfl, fun _ _ => rfl⟩

theorem inv_empty : OMInv OMap.empty := ⟨rfl, List.nodup_nil⟩

/-- a raw value as the serialiser stores it: the encoding of one tag-free item within the decoder's limits -/
def RawItem (raw : Bytes) : Prop := ∃ t : Cbor, raw = t.enc ∧ Cbor.OkAt {} t 0 ∧ Cbor.hasTag t = false

structure RawOK (fs : List (Int × Bytes)) : Prop where
  keys : ∀ p ∈ fs, Int64 p.1
  vals : ∀ p ∈ fs, RawItem p.2

theorem rawOK_cons {k : Int} {v : Bytes} {fs : List (Int × Bytes)} (h : RawOK ((k, v) :: fs)) :
    Int64 k ∧ RawItem v ∧ RawOK fs :=
  ⟨h.keys (k, v) (by simp), h.vals (k, v) (by simp), fun p hp => h.keys p (by simp [hp]), fun p hp => h.vals p (by simp [hp])⟩

theorem rawFirst_enc (t : Cbor) (rest : Bytes) (h : Cbor.OkAt {} t 0) :
    rawFirst (t.enc ++ rest) = some (t.enc, t, rest) := by
  unfold rawFirst
  rw [Cbor.decodeFirst_enc {} t rest h]
  simp

theorem cInt_ok (k : Int) (h : Int64 k) : Cbor.OkAt {} (cInt k) 0 ∧ Cbor.hasTag (cInt k) = false ∧
    decIntRange (-9223372036854775808) 9223372036854775807 (cInt k) = .ok (some k) := by
  refine ⟨okAt_cInt {} k 0 h, ?_, decInt_cInt _ _ k h.1 h.2 (by omega)⟩
  rcases cInt_cases k with ⟨n, _, e⟩ | ⟨n, _, e⟩ <;> rw [e] <;> rfl

def encFields : List (Int × Bytes) → Bytes
  | [] => []
  | (k, v) :: rest => (cInt k).enc ++ v ++ encFields rest

theorem encEntries_fields (m : OMap) (hn : (m.fields.map (·.1)).Nodup) : ∀ fs : List (Int × Bytes),
    (∀ p ∈ fs, p ∈ m.fields) → encEntries m (fs.map (·.1)) = encFields fs
  | [], _ => rfl
  | (k, v) :: fs, h => by
    rw [List.forall_mem_cons] at h
    simp only [List.map_cons, encEntries, encFields]
    rw [cborMap.get_of_mem hn h.1, encEntries_fields m hn fs h.2]
    rfl

/-- one key/value step on an entry the serialiser wrote is an `Add` of that entry -/
theorem ukv_enc (k : Int) (v rest : Bytes) (acc : OMap) (hk : Int64 k) (hv : RawItem v) :
    unmarshalKeyValue ((cInt k).enc ++ v ++ rest) acc = (acc.add k v).bind fun m' => .ok (rest, m') := by
  obtain ⟨t, rfl, hto, htt⟩ := hv
  obtain ⟨c1, c2, c3⟩ := cInt_ok k hk
  unfold unmarshalKeyValue
  rw [List.append_assoc, rawFirst_enc (cInt k) _ c1]
  simp only [kvTagged, rawFirst_enc t rest hto, c2, htt, Bool.or_self, Bool.false_eq_true, if_false, c3]

theorem readEntries_enc : ∀ (fs : List (Int × Bytes)) (rest : Bytes) (acc : OMap), RawOK fs →
    (acc.fields.map (·.1) ++ fs.map (·.1)).Nodup →
    readEntries fs.length (encFields fs ++ rest) acc =
      .ok (rest, { keys := acc.keys ++ fs.map (·.1), fields := acc.fields ++ fs })
  | [], rest, acc, _, _ => by simp [readEntries, encFields]
  | (k, v) :: fs, rest, acc, hok, hn => by
    obtain ⟨hk, hv, hok⟩ := rawOK_cons hok
    simp only [List.length_cons, readEntries, encFields]
    rw [List.append_assoc, ukv_enc k v _ acc hk hv, cborMap.add_ok v (cborMap.has_of_nodup hn)]
    simp only [Outcome.bind]
    rw [readEntries_enc fs rest _ hok (by simpa using hn)]
    simp

theorem mapHeader_eq_encHead (n : Nat) (h : n < 2 ^ 32) : mapHeader n = Cbor.encHead 5 n := by
  unfold mapHeader Cbor.encHead
  by_cases h0 : n = 0
  · subst h0; simp
  by_cases h1 : n < 24
  · simp [h0, h1]
  by_cases h2 : n < 256
  · have h2' : n ≤ 255 := by omega
    simp [h0, h1, h2, h2']
  by_cases h3 : n < 65536
  · have h2' : ¬ n ≤ 255 := by omega
    have h3' : n ≤ 65535 := by omega
    simp [h0, h1, h2, h2', h3, h3']
  · have h2' : ¬ n ≤ 255 := by omega
    have h3' : ¬ n ≤ 65535 := by omega
    have h4 : n < 4294967296 := by omega
    simp [h0, h1, h2, h2', h3, h3', h4]

/-- the additional-information reader, by its specification, reads back the argument of a shortest-form head of any
    major type, and leaves what followed the head -/
theorem paiSpec_encHead (mt n : Nat) (hn : n < 2 ^ 32) (rest : Bytes) :
    ∃ tl, Cbor.encHead mt n = UInt8.ofNat (mt * 32 + Cbor.aiOf n) :: tl ∧
      Tie.Enc.paiSpec (Cbor.aiOf n) (tl ++ rest) = .ok (n, rest) := by
  unfold Cbor.encHead Cbor.aiOf Tie.Enc.paiSpec
  by_cases h1 : n < 24
  · exact ⟨[], by simp [h1]⟩
  by_cases h2 : n < 256
  · exact ⟨[UInt8.ofNat n], by simp [h1, h2, show n % 256 = n by omega]⟩
  by_cases h3 : n < 65536
  · exact ⟨beBytes 2 n, by simp [h1, h2, h3, beBytes_length, beNat_beBytes, Nat.mod_eq_of_lt (show n < 256 ^ 2 from h3)]⟩
  · have h4 : n < 4294967296 := hn
    exact ⟨beBytes 4 n, by simp [h1, h2, h3, h4, beBytes_length, beNat_beBytes, Nat.mod_eq_of_lt (show n < 256 ^ 4 from h4)]⟩

theorem header_read (n : Nat) (hn : n < 2 ^ 32) (rest : Bytes) :
    ∃ b tl, Cbor.encHead 5 n = b :: tl ∧ b.toNat / 32 = 5 ∧ b.toNat % 32 ≠ 31 ∧
      processAdditionalInfo (b.toNat % 32) (tl ++ rest) = .ok (n, rest) := by
  obtain ⟨tl, hb, hp⟩ := paiSpec_encHead 5 n hn rest
  have hai := Cbor.aiOf_le n
  obtain ⟨hmt, e⟩ := Cbor.initial_byte 5 (Cbor.aiOf n) (by decide) (by omega)
  exact ⟨_, tl, hb, hmt, by omega, by rw [e, Tie.Enc.model_pai_spec, hp]⟩

theorem fromCBOR_encHead (n : Nat) (hn : n < 2 ^ 32) (body : Bytes) :
    fromCBOR (Cbor.encHead 5 n ++ body) = (readEntries n body OMap.empty).bind fun p => .ok p.2 := by
  obtain ⟨b, tl, hb, hmt, hai, hp⟩ := header_read n hn body
  rw [hb]
  unfold fromCBOR
  simp [idx, sliceFrom, Outcome.bind, hmt, hp, hai]

theorem toCBOR_eq (m : OMap) (hi : OMInv m) (hn : m.fields.length < 2 ^ 32) :
    m.toCBOR = Cbor.encHead 5 m.fields.length ++ encFields m.fields := by
  rw [OMap.toCBOR, hi.agree, List.length_map, mapHeader_eq_encHead _ hn,
    encEntries_fields m (hi.agree ▸ hi.nodup) m.fields fun _ h => h]

/-- **reading back**: `FromCBOR` applied to what `ToCBOR` wrote returns the very same ordered map —
    for every number of entries below 2³² (all header widths), including none -/
theorem fromCBOR_toCBOR (m : OMap) (hi : OMInv m) (hr : RawOK m.fields) (hn : m.keys.length < 2 ^ 32) :
    fromCBOR m.toCBOR = .ok m := by
  rw [hi.agree, List.length_map] at hn
  have := readEntries_enc m.fields [] OMap.empty hr (by simpa [OMap.empty] using hi.agree ▸ hi.nodup)
  rw [List.append_nil] at this
  rw [toCBOR_eq m hi hn, fromCBOR_encHead _ hn, this]
  simp only [Outcome.bind, OMap.empty, List.nil_append]
  rw [← hi.agree]

theorem readEntries_dup : ∀ (fs : List (Int × Bytes)) (rest : Bytes) (acc : OMap), RawOK fs →
    ¬ (acc.fields.map (·.1) ++ fs.map (·.1)).Nodup → OMInv acc →
    readEntries fs.length (encFields fs ++ rest) acc = .err eOther
  | [], rest, acc, _, hn, ha => absurd (by simpa [← ha.agree] using ha.nodup) hn
  | (k, v) :: fs, rest, acc, hok, hn, ha => by
    obtain ⟨hk, hv, hok⟩ := rawOK_cons hok
    simp only [List.length_cons, readEntries, encFields]
    rw [List.append_assoc, ukv_enc k v _ acc hk hv]
    cases hh : acc.has k with
    | true => rw [cborMap.add_dup v hh]; rfl
    | false =>
      have hadd := cborMap.add_ok v hh
      obtain ⟨a, n⟩ := cborMap.add_inv ha.agree ha.nodup hadd
      rw [hadd]
      exact readEntries_dup fs rest _ hok (by simpa using hn) ⟨a, n⟩

end Psa.Proofs.Enc
