/- The validators, the EAN patterns, the error filter and the component list of the claims model, each characterised
   once. -/
import Psa.Model.Setters
import Psa.Model.GoErr
import Psa.Spec.Setters
import Psa.Proofs.Lifecycle
namespace Psa.Proofs
open Psa Psa.Model Psa.Spec

/-! ### the tests written into the getters and setters, from "refuse if bad" to "accept if good" -/

theorem ite_bne {α β} [BEq α] [LawfulBEq α] [DecidableEq α] (a b : α) (x y : β) :
    (if a != b then x else y) = if a = b then y else x := by
  simp only [bne_iff_ne, ne_eq, ite_not]

theorem ite_outside {β} (n lo hi : Nat) (x y : β) :
    (if n < lo || n > hi then x else y) = if lo ≤ n ∧ n ≤ hi then y else x := by
  simp only [Bool.or_eq_true, decide_eq_true_eq, ← ite_not (p := _ ∨ _), not_or, Nat.not_lt]

theorem ite_hashLen {β} (n : Nat) (x y : β) :
    (if n != 32 && n != 48 && n != 64 then x else y) = if n = 32 ∨ n = 48 ∨ n = 64 then y else x := by
  simp only [bne_iff_ne, ne_eq, Bool.and_eq_true, ← not_or, or_assoc, ite_not]

theorem ite_bnot {β} (a : Bool) (x y : β) : (if !a then x else y) = if a then y else x := by
  cases a <;> rfl

theorem ite_bnot_and {β} (a b : Bool) (x y : β) : (if !a && !b then x else y) = if a || b then y else x := by
  cases a <;> cases b <;> rfl

/-- the test of `ValidateInstID`; its index expression cannot panic, the length having been checked, so the name of the
    panic site does not matter -/
theorem instID_test (site : String) (v : Bytes) :
    (if v.length != 33 then Outcome.err eWrongSyntax
     else (idx site v 0).bind fun b => if b.toNat != 1 then .err eWrongSyntax else .ok ()) =
      if v.length = 33 ∧ v.head? = some 1 then .ok () else .err eWrongSyntax := by
  cases v with
  | nil => rfl
  | cons x xs =>
    have hx : x.toNat = 1 ↔ x = 1 := UInt8.toNat_inj (b := 1)
    simp only [idx, List.getElem?_cons_zero, Outcome.bind, ite_bne, hx, List.head?_cons, Option.some.injEq]
    by_cases h : (x :: xs).length = 33 <;> simp only [h, true_and, false_and, if_true, if_false]

/-! ### the validators of claims_common.go, each as a check of its specification -/

theorem validateImplID_eq (b : Bytes) :
    validateImplID b = if b.length = 32 then .ok () else .err eWrongSyntax :=
  ite_bne _ _ _ _

theorem validatePSAHashType_eq (b : Bytes) :
    validatePSAHashType b = if b.length = 32 ∨ b.length = 48 ∨ b.length = 64 then .ok () else .err eWrongSyntax :=
  ite_hashLen _ _ _

theorem validateInstID_eq (b : Bytes) :
    validateInstID b = if b.length = 33 ∧ b.head? = some 1 then .ok () else .err eWrongSyntax :=
  instID_test _ b

theorem validateVSI_eq (s : Bytes) : validateVSI s = if s ≠ [] then .ok () else .err eWrongSyntax := by
  cases s <;> rfl

theorem hashOK_iff (b : Bytes) : hashOK b = true ↔ HashLen b.length := by
  simp [hashOK, HashLen, or_assoc]

theorem all_isDigit_iff (s : Bytes) : s.all isDigit = true ↔ AllDigits s := by
  unfold AllDigits isDigit
  simp [List.all_eq_true]

theorem isEan13_iff (s : Bytes) : isEan13 s = true ↔ Ean13 s := by
  unfold isEan13 Ean13
  rw [Bool.and_eq_true, all_isDigit_iff]; simp

theorem isEan13p5_iff (s : Bytes) : isEan13p5 s = true ↔ Ean13p5 s := by
  unfold isEan13p5 Ean13p5
  simp only [Bool.and_eq_true, beq_iff_eq, all_isDigit_iff]
  constructor
  · rintro ⟨⟨⟨hl, h1⟩, h2⟩, h3⟩
    have hlt : 13 < s.length := by omega
    rw [List.getElem?_eq_getElem hlt, Option.some.injEq] at h2
    refine ⟨s.take 13, s.drop 14, ?_, by rw [List.length_take]; omega, by rw [List.length_drop]; omega, h1, h3⟩
    rw [← h2, ← List.drop_eq_getElem_cons hlt, List.take_append_drop]
  · rintro ⟨a, b, rfl, ha, hb, hda, hdb⟩
    refine ⟨⟨⟨by rw [List.length_append, List.length_cons]; omega, by rwa [List.take_left' ha]⟩, ?_⟩, ?_⟩
    · rw [List.getElem?_append_right (by omega)]; simp [ha]
    · rwa [show 14 = a.length + 1 by omega, ← List.drop_drop, List.drop_left, List.drop_one, List.tail_cons]

theorem filterError_ok_iff {α} (o : Outcome α) :
    filterError o = .ok () ↔ (∃ a, o = .ok a) ∨ (∃ m, o = .err m ∧ filtered m = true) := by
  cases o <;> simp [filterError]

theorem filterError_err_iff {α} (o : Outcome α) (m : ErrMask) :
    filterError o = .err m ↔ o = .err m ∧ filtered m = false := by
  cases o with
  | err m' =>
    -- filtered or not, what is left is `m' = m → filtered m = …`, which is `hf`
    cases hf : filtered m' <;> simp [filterError, hf] <;> rintro rfl <;> exact hf
  | _ => simp [filterError]

theorem filterError_panic_iff {α} (o : Outcome α) (s : String) : filterError o = .panic s ↔ o = .panic s := by
  cases o with
  | err m => simp only [filterError]; split <;> simp
  | _ => simp [filterError]

theorem filterError_err_unfiltered {α} (o : Outcome α) (m : ErrMask) (h : filterError o = .err m) :
    filtered m = false :=
  ((filterError_err_iff o m).mp h).2

/-- on the mask of an error tree, the filter of the claims model is that of `FilterError` on the tree -/
theorem filtered_mask (e : GoErr) :
    filtered e.mask = (e.is .missingOptional || e.is .notInProfile) := by
  unfold filtered GoErr.mask
  cases e.is .missingOptional <;> cases e.is .missingMandatory <;> cases e.is .notInProfile <;>
    cases e.is .wrongProfile <;> cases e.is .wrongSyntax <;> decide

/-! ### one software component

`compOK` (Spec.Setters) is the decidable form of `CompOK` (Spec.Conformant); `ValidateSwComponent` decides it, and
reports the first of the two mandatory hashes that is absent (missing-mandatory) or of the wrong size (wrong-syntax). -/

theorem compOK_iff (sc : SwComp) : compOK sc = true ↔ CompOK sc := by
  unfold compOK CompOK
  cases sc.mval <;> cases sc.signer <;> simp [hashOK_iff]

theorem all_compOK_iff (l : List SwComp) : l.all compOK = true ↔ ∀ sc ∈ l, CompOK sc := by
  simp [List.all_eq_true, compOK_iff]

/-- the class of a refused component or component list -/
def CompErr (m : ErrMask) : Prop := m = eMissingMandatory ∨ m = eWrongSyntax

theorem CompErr.unfiltered {m : ErrMask} (h : CompErr m) : filtered m = false := by
  rcases h with rfl | rfl <;> rfl

/-- a mandatory hash-typed field of a component, as `ValidateSwComponent` reads it -/
theorem hashField_cases (x : Option Bytes) (g : Outcome Bytes)
    (hg : g = match x with
      | none => .err eMissingMandatory
      | some v => (validatePSAHashType v).bind fun _ => .ok v) :
    (filterError g = .ok () ∧ ∃ b, x = some b ∧ HashLen b.length) ∨
    (∃ m, filterError g = .err m ∧ CompErr m ∧ ¬ ∃ b, x = some b ∧ HashLen b.length) := by
  subst hg
  cases x with
  | none => exact Or.inr ⟨_, rfl, Or.inl rfl, by simp⟩
  | some b =>
    simp only [validatePSAHashType_eq, check_bind, HashLen, Option.some.injEq, exists_eq_left']
    split
    · exact Or.inl ⟨rfl, ‹_›⟩
    · exact Or.inr ⟨_, rfl, Or.inr rfl, ‹_›⟩

theorem comp_validate_cases (sc : SwComp) :
    (sc.validate = .ok () ∧ CompOK sc) ∨ (∃ m, sc.validate = .err m ∧ CompErr m ∧ ¬ CompOK sc) := by
  have h1 : filterError sc.getMeasurementType = .ok () := by
    unfold SwComp.getMeasurementType; cases sc.mtype <;> rfl
  have h2 : filterError sc.getVersion = .ok () := by
    unfold SwComp.getVersion; cases sc.version <;> rfl
  have h3 : filterError sc.getMeasurementDesc = .ok () := by
    unfold SwComp.getMeasurementDesc; cases sc.mdesc <;> rfl
  unfold SwComp.validate CompOK
  rw [h1, h2, h3]
  rcases hashField_cases sc.mval sc.getMeasurementValue rfl with ⟨hv, hb⟩ | ⟨m, hv, hc, hb⟩
  · rcases hashField_cases sc.signer sc.getSignerID rfl with ⟨hs, hb'⟩ | ⟨m, hs, hc, hb'⟩
    · exact Or.inl ⟨by rw [hv, hs]; rfl, hb, hb'⟩
    · exact Or.inr ⟨m, by rw [hv, hs]; rfl, hc, fun h => hb' h.2⟩
  · exact Or.inr ⟨m, by rw [hv]; rfl, hc, fun h => hb h.1⟩

theorem comp_validate_ok_iff (sc : SwComp) : sc.validate = .ok () ↔ CompOK sc := by
  rcases comp_validate_cases sc with ⟨h, hc⟩ | ⟨m, h, _, hc⟩ <;> simp [h, hc]

/-! ### the component list

`valuesOf` (the getter's walk) and `validateAndConvert` (the setter's) are the same walk (`validateAndConvert_eq`);
`valuesOf_cases` is the induction that carries the facts, everything else about either is read off it. -/

theorem valuesOf_cases (l : List (Option SwComp)) :
    (∃ r, valuesOf l = .ok r ∧ l = r.map some ∧ ∀ sc ∈ r, CompOK sc) ∨
    (∃ m, valuesOf l = .err m ∧ CompErr m ∧ ∀ r : List SwComp, l = r.map some → ¬ ∀ sc ∈ r, CompOK sc) := by
  induction l with
  | nil => exact Or.inl ⟨[], rfl, rfl, by simp⟩
  | cons x xs ih =>
    cases x with
    | none => exact Or.inr ⟨_, rfl, Or.inr rfl, fun r hr => by cases r <;> simp at hr⟩
    | some sc =>
      simp only [valuesOf]
      rcases comp_validate_cases sc with ⟨hsc, hok⟩ | ⟨m, hsc, hc, hbad⟩ <;> rw [hsc]
      · rcases ih with ⟨r, hr, rfl, hall⟩ | ⟨m, hm, hc, hno⟩
        · exact Or.inl ⟨sc :: r, by rw [hr]; rfl, rfl, List.forall_mem_cons.mpr ⟨hok, hall⟩⟩
        · refine Or.inr ⟨m, by rw [hm]; rfl, hc, fun r hr hall => ?_⟩
          obtain ⟨a, ys, rfl, _, hys⟩ := List.map_eq_cons_iff.mp hr.symm
          exact hno ys hys.symm (List.forall_mem_cons.mp hall).2
      · refine Or.inr ⟨m, rfl, hc, fun r hr hall => ?_⟩
        obtain ⟨a, ys, rfl, ha, _⟩ := List.map_eq_cons_iff.mp hr.symm
        cases ha
        exact hbad (List.forall_mem_cons.mp hall).1

theorem valuesOf_ok_iff (l : List (Option SwComp)) (r : List SwComp) :
    valuesOf l = .ok r ↔ l = r.map some ∧ ∀ sc ∈ r, CompOK sc := by
  rcases valuesOf_cases l with ⟨r', hr', rfl, hall⟩ | ⟨m, hm, _, hno⟩
  · rw [hr', List.map_inj_right fun _ _ h => Option.some.inj h]
    constructor
    · intro h; cases h; exact ⟨rfl, hall⟩
    · rintro ⟨rfl, _⟩; rfl
  · rw [hm]
    exact ⟨nofun, fun h => absurd h.2 (hno r h.1)⟩

theorem valuesOf_err (l : List (Option SwComp)) (m : ErrMask) (h : valuesOf l = .err m) : CompErr m := by
  rcases valuesOf_cases l with ⟨r, hr, _⟩ | ⟨m', hm, hc, _⟩
  · rw [hr] at h; cases h
  · rw [hm] at h; cases h; exact hc

theorem valuesOf_err_unfiltered (l : List (Option SwComp)) (m : ErrMask) (h : valuesOf l = .err m) :
    filtered m = false :=
  (valuesOf_err l m h).unfiltered

theorem validateAndConvert_eq (l : List SwComp) :
    validateAndConvert l = (valuesOf (l.map some)).bind fun r => .ok (r.map some) := by
  induction l with
  | nil => rfl
  | cons sc xs ih =>
    simp only [validateAndConvert, List.map_cons, valuesOf, ih]
    cases sc.validate with
    | ok => cases valuesOf (xs.map some) <;> rfl
    | err | panic => rfl

theorem valuesOf_map_cases (l : List SwComp) :
    (valuesOf (l.map some) = .ok l ∧ ∀ sc ∈ l, CompOK sc) ∨
    (∃ m, valuesOf (l.map some) = .err m ∧ CompErr m ∧ ¬ ∀ sc ∈ l, CompOK sc) := by
  rcases valuesOf_cases (l.map some) with ⟨r, hr, hl, hall⟩ | ⟨m, hm, hc, hno⟩
  · cases (List.map_inj_right fun _ _ h => Option.some.inj h).mp hl
    exact Or.inl ⟨hr, hall⟩
  · exact Or.inr ⟨m, hm, hc, hno l rfl⟩

theorem validateAndConvert_cases (l : List SwComp) :
    (validateAndConvert l = .ok (l.map some) ∧ ∀ sc ∈ l, CompOK sc) ∨
    (∃ m, validateAndConvert l = .err m ∧ CompErr m ∧ ¬ ∀ sc ∈ l, CompOK sc) := by
  rw [validateAndConvert_eq]
  rcases valuesOf_map_cases l with ⟨h, hall⟩ | ⟨m, h, hc, hbad⟩ <;> rw [h]
  · exact Or.inl ⟨rfl, hall⟩
  · exact Or.inr ⟨m, rfl, hc, hbad⟩

end Psa.Proofs
