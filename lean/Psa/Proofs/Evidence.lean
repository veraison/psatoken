/- The envelope: injectivity of the to-be-signed bytes, one case lemma per operation (`evVerify_cases`, `evSign_cases`,
   `evUnmarshal_cases`), the envelope read back (helpers for C02, C03, C05, C19, C20). -/
import Psa.Model.Evidence
import Psa.Cbor.OkAt
import Psa.Proofs.IntItem
namespace Psa.Proofs
open Psa Psa.Model

theorem okAt_sigStructure (p e pl : Bytes) (hp : p.length < 2 ^ 64) (he : e.length < 2 ^ 64) (hpl : pl.length < 2 ^ 64) :
    Cbor.OkAt {} (sigStructure p e pl) 0 := by
  refine ⟨by simp, by decide, by simp, ?_⟩
  refine ⟨?_, hp, he, hpl, trivial⟩
  show (strBytes "Signature1").length < 2 ^ 64
  decide

/-- The bytes a signature covers determine the protected header bytes and the payload
    (for a fixed external AAD): Sig_structure is injective. -/
theorem tbs_injective (p p' e pl pl' : Bytes) (hp : p.length < 2 ^ 64) (hp' : p'.length < 2 ^ 64)
    (he : e.length < 2 ^ 64) (hpl : pl.length < 2 ^ 64) (hpl' : pl'.length < 2 ^ 64)
    (h : toBeSigned p e pl = toBeSigned p' e pl') : p = p' ∧ pl = pl' := by
  simpa only [sigStructure, Cbor.arr.injEq, List.cons.injEq, Cbor.bstr.injEq, and_true, true_and] using
    Cbor.enc_injective {} (okAt_sigStructure p e pl hp he hpl) (okAt_sigStructure p' e pl' hp' he hpl') h

theorem evVerify_cases (kt : KeyTable) (w : World) (e : Ev) (k : Nat) :
    (evVerify kt w e k = .ok () ∧
      ∃ m pl a, e.msg = some m ∧ m.payload = some pl ∧ protAlg m.prot = .alg a ∧ kt k a = true ∧ m.sig ≠ [] ∧
        (k, toBeSigned m.prot externalAAD pl, m.sig) ∈ w.log) ∨
    evVerify kt w e k = .err eOther := by
  unfold evVerify
  -- every branch but one returns the error; the hypotheses of that one are the conjuncts
  repeat' split
  all_goals try exact .inr rfl
  exact .inl ⟨rfl, _, _, _, ‹_ = some _›, ‹_ = some _›, ‹_ = AlgHdr.alg _›, by simpa using ‹¬ (!_) = true›, ‹_›,
    by simpa [World.sigVerify] using ‹World.sigVerify _ _ _ _ = true›⟩

/-- Verification succeeds only if the log holds an entry for that very key whose to-be-signed
    bytes are those of this message and whose signature is this message's signature. -/
theorem verify_sound (kt : KeyTable) (w : World) (e : Ev) (k : Nat) (h : evVerify kt w e k = .ok ()) :
    ∃ m pl a, e.msg = some m ∧ m.payload = some pl ∧ protAlg m.prot = .alg a ∧ kt k a = true ∧ m.sig ≠ [] ∧
      (k, toBeSigned m.prot externalAAD pl, m.sig) ∈ w.log := by
  rcases evVerify_cases kt w e k with ⟨_, hs⟩ | he
  · exact hs
  · rw [he] at h; cases h

theorem signPayload_ok_iff (v : Bool) (c : Claims) (b : Bytes) :
    signPayload v (some c) = .ok b ↔ (v = true → validate c = .ok ()) ∧ encodeClaims c = .ok b := by
  unfold signPayload
  cases v
  · simp [Outcome.bind]
  · cases hv : validate c <;> simp [Outcome.bind, hv]

theorem evSign_ok (v : Bool) (w : World) (e : Ev) (sg : Signer) (p : Bytes) (hp : signPayload v e.claims = .ok p)
    (hg : sg.kind = .good) (hr : sg.reply ≠ []) :
    evSign v w e sg =
      ({ log := (sg.key, toBeSigned (protOfAlg sg.alg) externalAAD p, sg.reply) :: w.log },
       { e with msg := some { prot := protOfAlg sg.alg, payload := some p, sig := sg.reply } },
       .ok (envelopeTree { prot := protOfAlg sg.alg, payload := some p, sig := sg.reply }).enc) := by
  simp [evSign, hp, doSign, hg, hr]

theorem evSign_verifies (kt : KeyTable) (v : Bool) (w : World) (e : Ev) (sg : Signer) (p : Bytes)
    (hp : signPayload v e.claims = .ok p) (hg : sg.kind = .good) (hr : sg.reply ≠ []) (hkt : kt sg.key sg.alg = true)
    (halg : protAlg (protOfAlg sg.alg) = .alg sg.alg) :
    evVerify kt (evSign v w e sg).1 (evSign v w e sg).2.1 sg.key = .ok () := by
  rw [evSign_ok v w e sg p hp hg hr]
  simp [evVerify, halg, hkt, hr, World.sigVerify]

/-- a signing operation either succeeds as in `evSign_ok` — the payload was computed, the signer is honest and
    replies — or it leaves the world alone and a message without signature whose payload (if any) is the one computed -/
theorem evSign_cases (v : Bool) (w : World) (e : Ev) (sg : Signer) :
    (∃ p, signPayload v e.claims = .ok p ∧ sg.kind = .good ∧ sg.reply ≠ []) ∨
    (∃ m r, evSign v w e sg = (w, { e with msg := some m }, r) ∧ r.isOk = false ∧ m.sig = [] ∧
      ∀ p, m.payload = some p → signPayload v e.claims = .ok p) := by
  unfold evSign
  cases hp : signPayload v e.claims with
  | err m => exact .inr ⟨Msg.fresh, .err m, rfl, rfl, rfl, nofun⟩
  | panic x => exact .inr ⟨Msg.fresh, .panic x, rfl, rfl, rfl, nofun⟩
  | ok p =>
    by_cases h : sg.kind = .good ∧ sg.reply ≠ []
    · exact .inl ⟨p, rfl, h⟩
    · refine .inr ⟨⟨protOfAlg sg.alg, some p, []⟩, .err eOther, ?_, rfl, rfl, by simp⟩
      cases hk : sg.kind <;> simp_all [doSign, Msg.fresh]

/-- a decode either succeeds, and the Evidence holds the decoded message together with the decoding of its payload,
    or fails and leaves a fresh message -/
theorem evUnmarshal_cases (u : Bytes → Dec Bytes) (extra : List Bytes) (e : Ev) (bs : Bytes) :
    (∃ m p c, decodeEnvelope bs = .ok m ∧ m.payload = some p ∧ decodeClaims u extra p = .ok c ∧
      evUnmarshal u extra e bs = ({ claims := some c, msg := some m }, .ok ())) ∨
    (∃ cl r, evUnmarshal u extra e bs = ({ claims := cl, msg := some Msg.fresh }, r) ∧ r ≠ .ok ()) := by
  unfold evUnmarshal
  cases hd : decodeEnvelope bs with
  | err => exact .inr ⟨e.claims, .err, rfl, nofun⟩
  | ood => exact .inr ⟨e.claims, .ood, rfl, nofun⟩
  | ok m =>
    dsimp only
    cases hp : m.payload with
    | none => exact .inr ⟨none, .err, rfl, nofun⟩
    | some p =>
      dsimp only
      cases hc : decodeClaims u extra p with
      | err => exact .inr ⟨none, .err, rfl, nofun⟩
      | ood => exact .inr ⟨none, .ood, rfl, nofun⟩
      | ok c => exact .inl ⟨m, p, c, rfl, hp, hc, rfl⟩

theorem evUnmarshal_ok (u : Bytes → Dec Bytes) (extra : List Bytes) (e : Ev) (bs : Bytes) (m : Msg) (p : Bytes) (c : Claims)
    (hd : decodeEnvelope bs = .ok m) (hp : m.payload = some p) (hc : decodeClaims u extra p = .ok c) :
    evUnmarshal u extra e bs = ({ claims := some c, msg := some m }, .ok ()) := by
  simp only [evUnmarshal, hd, hp, hc]

theorem msgOfArray_ok (xs : List Cbor) (m : Msg) (h : msgOfArray xs = .ok m) :
    ∃ un pl, xs = [.bstr m.prot, .map un, pl, .bstr m.sig] ∧ m.sig ≠ [] ∧
      ((∃ p, pl = .bstr p ∧ m.payload = some p) ∨ (pl = Cbor.null ∧ m.payload = none)) := by
  unfold msgOfArray at h
  split at h
  · rename_i prot un pl sig
    repeat' split at h
    all_goals try cases h
    · exact ⟨un, _, rfl, ‹_›, .inl ⟨_, rfl, rfl⟩⟩
    · exact ⟨un, _, rfl, ‹_›, .inr ⟨rfl, rfl⟩⟩
  · cases h

theorem decodeEnvelope_ok (bs : Bytes) (m : Msg) (h : decodeEnvelope bs = .ok m) :
    ∃ xs, Cbor.decodeAll {} bs = some (.tag 18 (.arr xs)) ∧ msgOfArray xs = .ok m := by
  unfold decodeEnvelope at h
  repeat' split at h
  all_goals try cases h
  exact ⟨_, ‹_›, h⟩

theorem okAt_protMap (alg : Int) (h : -2 ^ 63 ≤ alg ∧ alg < 2 ^ 63) : Cbor.OkAt {} (Cbor.map [(.uint 1, cInt alg)]) 0 := by
  refine ⟨by simp, by decide, by simp, ?_⟩
  exact ⟨by simp [Cbor.OkAt], okAt_cInt _ alg 1 (by unfold Enc.Int64; omega), trivial⟩

theorem protOfAlg_ne (alg : Int) : protOfAlg alg ≠ [] := by
  unfold protOfAlg
  obtain ⟨b, tl, hb, _⟩ := Cbor.enc_first (Cbor.map [(.uint 1, cInt alg)])
  rw [hb]; exact List.cons_ne_nil b tl

theorem algOfMap_cInt (alg : Int) : algOfMap [(.uint 1, cInt alg)] = .alg alg := by
  rcases cInt_cases alg with ⟨n, rfl, e⟩ | ⟨n, rfl, e⟩ <;> rw [e] <;> rfl

theorem decodeAll_protOfAlg (alg : Int) (h : -2 ^ 63 ≤ alg ∧ alg < 2 ^ 63) :
    Cbor.decodeAll {} (protOfAlg alg) = some (.map [(.uint 1, cInt alg)]) :=
  Cbor.decodeAll_enc {} _ (okAt_protMap alg h)

theorem protClass_ok (alg : Int) (h : -2 ^ 63 ≤ alg ∧ alg < 2 ^ 63) : protClass (protOfAlg alg) = .ok () := by
  unfold protClass
  rw [if_neg (protOfAlg_ne alg), decodeAll_protOfAlg alg h]
  rcases cInt_cases alg with ⟨n, rfl, e⟩ | ⟨n, rfl, e⟩ <;> rw [e]
  · rfl
  · exact if_pos (by omega)

theorem okAt_envelope (prot p sig : Bytes) (h1 : prot.length < 2 ^ 64)
    (h2 : p.length < 2 ^ 64) (h3 : sig.length < 2 ^ 64) :
    Cbor.OkAt {} (envelopeTree { prot := prot, payload := some p, sig := sig }) 0 := by
  simp only [envelopeTree]
  refine ⟨by decide, by simp [Cbor.isTag], ?_⟩
  simp only [Cbor.isTag, Bool.false_eq_true, if_false]
  exact ⟨by simp, by decide, by simp, h1, ⟨by simp, by decide, by simp, trivial⟩, h2, h3, trivial⟩

theorem decodeEnvelope_envelopeTree (prot p sig : Bytes) (hprot : protClass prot = .ok ()) (hs : sig ≠ [])
    (h1 : prot.length < 2 ^ 64) (h2 : p.length < 2 ^ 64) (h3 : sig.length < 2 ^ 64) :
    decodeEnvelope (envelopeTree ⟨prot, some p, sig⟩).enc = .ok ⟨prot, some p, sig⟩ := by
  have hdec := Cbor.decodeAll_enc {} _ (okAt_envelope prot p sig h1 h2 h3)
  obtain ⟨rest, hpre⟩ : ∃ rest, (envelopeTree ⟨prot, some p, sig⟩).enc = 0xd2 :: 0x84 :: rest :=
    ⟨_, by simp only [envelopeTree, Cbor.enc, Cbor.encHead]; rfl⟩
  unfold decodeEnvelope
  -- the prefix test needs the bytes in `d2 84 …` form, `decodeAll_enc` needs them as an encoding
  rw [hpre]
  simp only []
  rw [← hpre, hdec]
  simp only [envelopeTree, msgOfArray, Cbor.hasTagPairs, Bool.false_eq_true, if_false, hs, hprot, List.isEmpty_nil,
    Bool.not_true]

end Psa.Proofs
