/- Shape facts of the wire token: keys, presence, boundedness → decodability (helpers for C10, C09); also what the JSON form
   shares with it: `membersOf` (a list of the fields that have a value), the spelling of the profile and nonce claims. -/
import Psa.Spec.Wire
import Psa.Proofs.IntItem
namespace Psa.Proofs
open Psa Psa.Model Psa.Spec

/-- an association list built field by field: one pair per field that has a value. The wire entries (`entriesOf`) and
    the JSON members (`jsonMembers`, `compJson`) are of this form. -/
def membersOf {F K V : Type} (fields : List F) (name : F → K) (val : F → Option V) : List (K × V) :=
  fields.filterMap fun f => (val f).map fun v => (name f, v)

theorem mem_membersOf {F K V : Type} {fields : List F} {name : F → K} {val : F → Option V} {k : K} {v : V} :
    (k, v) ∈ membersOf fields name val ↔ ∃ f ∈ fields, k = name f ∧ val f = some v := by
  simp only [membersOf, List.mem_filterMap, Option.map_eq_some_iff, Prod.mk.injEq]
  constructor
  · rintro ⟨f, hf, w, hw, rfl, rfl⟩; exact ⟨f, hf, rfl, hw⟩
  · rintro ⟨f, hf, rfl, hw⟩; exact ⟨f, hf, v, hw, rfl, rfl⟩

theorem membersOf_keys {F K V : Type} (fields : List F) (name : F → K) (val : F → Option V) :
    (membersOf fields name val).map Prod.fst = (fields.filter fun f => (val f).isSome).map name := by
  induction fields with
  | nil => rfl
  | cons f fs ih =>
    simp only [membersOf, List.filterMap_cons, List.filter_cons] at ih ⊢
    cases val f <;> simp [ih]

theorem membersOf_keys_sublist {F K V : Type} (fields : List F) (name : F → K) (val : F → Option V) :
    ((membersOf fields name val).map Prod.fst).Sublist (fields.map name) :=
  membersOf_keys fields name val ▸ List.filter_sublist.map name

/-- the wire token key by key: each key contributes its entry or nothing, as in the encoder -/
theorem entriesOf_cons (k : Int) (ks : List Int) (val : Int → Option Cbor) :
    entriesOf (k :: ks) val = kvOmit k (val k) ++ entriesOf ks val := by
  cases h : val k <;> simp [entriesOf, kvOmit, h]

theorem entriesOf_nil (val : Int → Option Cbor) : entriesOf [] val = [] := rfl
theorem kvOmit_some (k : Int) (v : Cbor) : kvOmit k (some v) = [(cInt k, v)] := rfl

theorem entriesOf_keys (keys : List Int) (val : Int → Option Cbor) :
    (entriesOf keys val).map Prod.fst = (keys.filter fun k => (val k).isSome).map cInt :=
  membersOf_keys keys cInt val

theorem entriesOf_mem {keys : List Int} {val : Int → Option Cbor} {k v : Cbor} :
    (k, v) ∈ entriesOf keys val ↔ ∃ i ∈ keys, k = cInt i ∧ val i = some v :=
  mem_membersOf

theorem keyOrder_nodup (p : Prof) : (keyOrder p).Nodup := by cases p <;> decide

theorem entriesOf_keys_nodup (keys : List Int) (val : Int → Option Cbor) (h : keys.Nodup) :
    ((entriesOf keys val).map Prod.fst).Nodup :=
  (membersOf_keys_sublist keys cInt val).nodup
    (List.pairwise_map.mpr (h.imp fun hne heq => hne (cInt_injective _ _ heq)))

def optLen (o : Option Bytes) : Prop := ∀ b, o = some b → b.length < 2 ^ 64

def SwCompBounded (sc : SwComp) : Prop :=
  optLen sc.mtype ∧ optLen sc.mval ∧ optLen sc.version ∧ optLen sc.signer ∧ optLen sc.mdesc

/-- what holds of every claims-set that exists as Go values (`int32`, `uint16`, `uint`, slice lengths), plus the
    decoder's array limit (`Cbor.Limits.maxArr`, 131072 elements) on the component list and on the nonce list -/
def ClaimsBounded (c : Claims) : Prop :=
  (∀ v, c.clientId = some v → -2147483648 ≤ v ∧ v ≤ 2147483647) ∧
  (∀ v, c.lifecycle = some v → v < 65536) ∧
  (∀ v, c.noSw = some v → v < 2 ^ 64) ∧
  (∀ s, c.profile = some (.str s) → s.length < 2 ^ 64) ∧
  optLen c.implId ∧ optLen c.bootSeed ∧ optLen c.certRef ∧ optLen c.instId ∧ optLen c.vsi ∧
  (∀ l, c.nonce = some l → l.length ≤ 131072 ∧ ∀ b ∈ l, b.length < 2 ^ 64) ∧
  c.sw.elems.length ≤ 131072 ∧ (∀ sc, some sc ∈ c.sw.elems → SwCompBounded sc)

namespace RT

theorem keyOrder_i64 (p : Prof) : ∀ k ∈ keyOrder p, Enc.Int64 k := by unfold Enc.Int64; cases p <;> decide

theorem compKeyOrder_i64 : ∀ k ∈ compKeyOrder, Enc.Int64 k := by unfold Enc.Int64; decide

end RT
open RT

theorem okAtPairs_entriesOf {lim : Cbor.Limits} {keys : List Int} {val : Int → Option Cbor} {d : Nat}
    (hk : ∀ k ∈ keys, Enc.Int64 k) (hv : ∀ k ∈ keys, ∀ v, val k = some v → Cbor.OkAt lim v d) :
    Cbor.OkAtPairs lim (entriesOf keys val) d :=
  Cbor.okAtPairs_of_forall lim d _ fun (k, v) h => by
    obtain ⟨i, hi, rfl, hiv⟩ := entriesOf_mem.mp h
    exact ⟨okAt_cInt lim i d (hk i hi), hv i hi v hiv⟩

theorem entriesOf_length_le (keys : List Int) (val : Int → Option Cbor) : (entriesOf keys val).length ≤ keys.length :=
  List.length_filterMap_le _ _

theorem compWireVal_kind (sc : SwComp) (i : Int) (v : Cbor) (h : compWireVal sc i = some v) :
    (∃ s, (sc.mtype = some s ∨ sc.version = some s ∨ sc.mdesc = some s) ∧ v = .tstr s) ∨
    (∃ b, (sc.mval = some b ∨ sc.signer = some b) ∧ v = .bstr b) := by
  by_cases hi : i ∈ compKeyOrder
  · simp only [compKeyOrder, List.mem_cons, List.mem_nil_iff, or_false] at hi
    rcases hi with rfl | rfl | rfl | rfl | rfl
    -- at a literal key `compWireVal` computes to `Option.map` over the key's field
    all_goals obtain ⟨x, hx, rfl⟩ := Option.map_eq_some_iff.mp h
    · exact .inl ⟨x, .inl hx, rfl⟩
    · exact .inr ⟨x, .inl hx, rfl⟩
    · exact .inl ⟨x, .inr (.inl hx), rfl⟩
    · exact .inr ⟨x, .inr hx, rfl⟩
    · exact .inl ⟨x, .inr (.inr hx), rfl⟩
  · simp only [compKeyOrder, List.mem_cons, List.mem_nil_iff, or_false, not_or] at hi
    simp [compWireVal, hi] at h

/-! ### every value of a bounded claims-set is within the decoder's limits

The last argument of `OkAt` is the nesting counter at which the item is met: 0 for the token, 1 for a claim's value, 2 for a
component map or a nonce inside its array; `{}` are the decoder's default limits (`Cbor.Limits`: 131072 array elements).
`OkAt` of an array or a map is four facts, given in this order: the count below 2⁶⁴, the nesting and the count within the
limits, the elements one level down. -/

theorem okAt_compWire (sc : SwComp) (h : SwCompBounded sc) : Cbor.OkAt {} (compWire sc) 2 := by
  obtain ⟨h1, h2, h3, h4, h5⟩ := h
  have hl : (entriesOf compKeyOrder (compWireVal sc)).length ≤ 5 := entriesOf_length_le compKeyOrder (compWireVal sc)
  refine ⟨by omega, by decide, by simp only []; omega, okAtPairs_entriesOf compKeyOrder_i64 ?_⟩
  intro k _ v hv
  rcases compWireVal_kind sc k v hv with ⟨s, hs | hs | hs, rfl⟩ | ⟨b, hb | hb, rfl⟩
  · exact h1 s hs
  · exact h3 s hs
  · exact h5 s hs
  · exact h2 b hb
  · exact h4 b hb

theorem okAt_compsWire (l : List SwComp) (hl : l.length ≤ 131072) (h : ∀ sc ∈ l, SwCompBounded sc) :
    Cbor.OkAt {} (compsWire l) 1 := by
  refine ⟨by rw [List.length_map]; omega, by decide, by rw [List.length_map]; exact hl,
    Cbor.okAtList_of_forall _ _ _ ?_⟩
  intro x hx
  obtain ⟨sc, hsc, rfl⟩ := List.mem_map.mp hx
  exact okAt_compWire sc (h sc hsc)

theorem okAt_bstrs (l : List Bytes) (h : ∀ b ∈ l, b.length < 2 ^ 64) : Cbor.OkAtList {} (l.map Cbor.bstr) 2 := by
  refine Cbor.okAtList_of_forall _ _ _ fun x hx => ?_
  obtain ⟨b, hb, rfl⟩ := List.mem_map.mp hx
  exact h b hb

/-! ### `wireVal` key by key: at each key of the profile's key order, one claim under its CBOR type

(Namespace `RT`, with the CBOR round trip in `RoundTripCore.lean` that these equations serve; `JRT` is its JSON twin.) -/

namespace RT

/-- the profile claim as the wire token and the JSON document spell it: a name, or nothing -/
def profStr : Option ProfVal → Option Bytes
  | some (.str s) => some s
  | _ => none

/-- profile 1's nonce: the one byte string, or nothing -/
def single : Option (List Bytes) → Option Bytes
  | some [b] => some b
  | _ => none

/-- profile 2's nonce claim as the wire token and the JSON document spell it: one nonce bare, several as an array -/
def nonceForm {γ : Type} (one : Bytes → γ) (arr : List γ → γ) : Option (List Bytes) → Option γ
  | some [b] => some (one b)
  | some (a :: b :: r) => some (arr ((a :: b :: r).map one))
  | _ => none

theorem profStr_map {γ : Type} {g : Bytes → γ} {o : Option ProfVal} :
    (match o with | some (.str s) => some (g s) | _ => none) = (profStr o).map g := by
  cases o with
  | none => rfl
  | some v => cases v <;> rfl

theorem profStr_some {o : Option ProfVal} {s : Bytes} : profStr o = some s ↔ o = some (.str s) := by
  cases o with
  | none => simp [profStr]
  | some v => cases v <;> simp [profStr]

theorem single_some {o : Option (List Bytes)} {b : Bytes} : single o = some b ↔ o = some [b] := by
  match o with
  | none | some [] | some [_] | some (_ :: _ :: _) => simp [single]

theorem nonceForm_eq {γ : Type} {one : Bytes → γ} {arr : List γ → γ} {o : Option (List Bytes)} :
    (match o with
      | some [b] => some (one b)
      | some (a :: b :: r) => some (arr ((a :: b :: r).map one))
      | _ => none) = nonceForm one arr o := by
  match o with
  | none | some [] | some [_] | some (_ :: _ :: _) => rfl

theorem nonceForm_some {γ : Type} {one : Bytes → γ} {arr : List γ → γ} {o : Option (List Bytes)} {v : γ}
    (h : nonceForm one arr o = some v) :
    (∃ b, o = some [b] ∧ v = one b) ∨ (∃ l, o = some l ∧ v = arr (l.map one)) := by
  match o, h with
  | some [b], h => cases h; exact .inl ⟨b, rfl, rfl⟩
  | some (a :: b :: r), h => cases h; exact .inr ⟨_, rfl, rfl⟩

section P1
variable (c : Claims) (hp : c.prof = .p1)
include hp

theorem wv1_0 : wireVal c (-75000) = (profStr c.profile).map .tstr := by
  simp only [wireVal, hp, if_true]
  exact profStr_map
theorem wv1_1 : wireVal c (-75001) = c.clientId.map cInt := by simp [wireVal, hp]
theorem wv1_2 : wireVal c (-75002) = c.lifecycle.map .uint := by simp [wireVal, hp]
theorem wv1_3 : wireVal c (-75003) = c.implId.map .bstr := by simp [wireVal, hp]
theorem wv1_4 : wireVal c (-75004) = c.bootSeed.map .bstr := by simp [wireVal, hp]
theorem wv1_5 : wireVal c (-75005) = c.certRef.map .tstr := by simp [wireVal, hp]
theorem wv1_6 : wireVal c (-75006) = (if c.sw.elems.isEmpty then none else some (compsWire (heldComps c.sw))) := by
  simp [wireVal, hp]
theorem wv1_7 : wireVal c (-75007) = c.noSw.map .uint := by simp [wireVal, hp]
theorem wv1_8 : wireVal c (-75008) = (single c.nonce).map .bstr := by
  simp [wireVal, hp]
  cases c.nonce with
  | none => rfl
  | some l =>
    cases l with
    | nil => rfl
    | cons a t => cases t <;> rfl
theorem wv1_9 : wireVal c (-75009) = c.instId.map .bstr := by simp [wireVal, hp]
theorem wv1_10 : wireVal c (-75010) = c.vsi.map .tstr := by simp [wireVal, hp]
end P1

section P2
variable (c : Claims) (hp : c.prof = .p2)
include hp
theorem wv2_0 : wireVal c 265 = (profStr c.profile).map .tstr := by
  simp only [wireVal, hp, if_true]
  exact profStr_map
theorem wv2_1 : wireVal c 2394 = c.clientId.map cInt := by simp [wireVal, hp]
theorem wv2_2 : wireVal c 2395 = c.lifecycle.map .uint := by simp [wireVal, hp]
theorem wv2_3 : wireVal c 2396 = c.implId.map .bstr := by simp [wireVal, hp]
theorem wv2_4 : wireVal c 2397 = c.bootSeed.map .bstr := by simp [wireVal, hp]
theorem wv2_5 : wireVal c 2398 = c.certRef.map .tstr := by simp [wireVal, hp]
theorem wv2_6 : wireVal c 2399 = (if c.sw.elems.isEmpty then none else some (compsWire (heldComps c.sw))) := by
  simp [wireVal, hp]
theorem wv2_7 : wireVal c 10 = nonceForm .bstr .arr c.nonce := by
  simp only [wireVal, hp]
  exact nonceForm_eq
theorem wv2_8 : wireVal c 256 = c.instId.map .bstr := by simp [wireVal, hp]
theorem wv2_9 : wireVal c 2400 = c.vsi.map .tstr := by simp [wireVal, hp]
end P2

end RT

inductive WireKind (c : Claims) (v : Cbor) : Prop
  | text (s : Bytes) (hs : c.profile = some (.str s) ∨ c.certRef = some s ∨ c.vsi = some s) (hv : v = .tstr s)
  | bytes (b : Bytes) (hb : c.implId = some b ∨ c.bootSeed = some b ∨ c.instId = some b ∨ c.nonce = some [b])
      (hv : v = .bstr b)
  | int (x : Int) (hx : c.clientId = some x) (hv : v = cInt x)
  | uint (n : Nat) (hn : c.lifecycle = some n ∨ c.noSw = some n) (hv : v = .uint n)
  | comps (hv : v = compsWire (heldComps c.sw))
  | nonces (l : List Bytes) (hl : c.nonce = some l) (hv : v = .arr (l.map .bstr))

/-- the one walk through `wireVal`, key by key -/
theorem wireVal_kind (c : Claims) (k : Int) (hk : k ∈ keyOrder c.prof) (v : Cbor) (hv : wireVal c k = some v) :
    WireKind c v := by
  have bytes : ∀ {o : Option Bytes}, o.map Cbor.bstr = some v →
      (∀ b, o = some b → c.implId = some b ∨ c.bootSeed = some b ∨ c.instId = some b ∨ c.nonce = some [b]) →
      WireKind c v := by
    intro o h ho; obtain ⟨x, hx, rfl⟩ := Option.map_eq_some_iff.mp h; exact .bytes x (ho x hx) rfl
  have text : ∀ {o : Option Bytes}, o.map Cbor.tstr = some v →
      (∀ s, o = some s → c.profile = some (.str s) ∨ c.certRef = some s ∨ c.vsi = some s) → WireKind c v := by
    intro o h ho; obtain ⟨x, hx, rfl⟩ := Option.map_eq_some_iff.mp h; exact .text x (ho x hx) rfl
  have int : c.clientId.map cInt = some v → WireKind c v := by
    intro h; obtain ⟨x, hx, rfl⟩ := Option.map_eq_some_iff.mp h; exact .int x hx rfl
  have uint : ∀ {o : Option Nat}, o.map Cbor.uint = some v →
      (∀ n, o = some n → c.lifecycle = some n ∨ c.noSw = some n) → WireKind c v := by
    intro o h ho; obtain ⟨x, hx, rfl⟩ := Option.map_eq_some_iff.mp h; exact .uint x (ho x hx) rfl
  have sw : (if c.sw.elems.isEmpty then none else some (compsWire (heldComps c.sw))) = some v → WireKind c v := by
    intro h; split at h <;> cases h; exact .comps rfl
  cases hp : c.prof <;> rw [hp] at hk
  · simp only [keyOrder, p1KeyOrder, List.mem_cons, List.mem_nil_iff, or_false] at hk
    rcases hk with rfl | rfl | rfl | rfl | rfl | rfl | rfl | rfl | rfl | rfl | rfl
    · rw [wv1_0 c hp] at hv; exact text hv fun _ h => .inl (profStr_some.mp h)
    · rw [wv1_1 c hp] at hv; exact int hv
    · rw [wv1_2 c hp] at hv; exact uint hv fun _ h => .inl h
    · rw [wv1_3 c hp] at hv; exact bytes hv fun _ h => .inl h
    · rw [wv1_4 c hp] at hv; exact bytes hv fun _ h => .inr (.inl h)
    · rw [wv1_5 c hp] at hv; exact text hv fun _ h => .inr (.inl h)
    · rw [wv1_6 c hp] at hv; exact sw hv
    · rw [wv1_7 c hp] at hv; exact uint hv fun _ h => .inr h
    · rw [wv1_8 c hp] at hv; exact bytes hv fun _ h => .inr (.inr (.inr (single_some.mp h)))
    · rw [wv1_9 c hp] at hv; exact bytes hv fun _ h => .inr (.inr (.inl h))
    · rw [wv1_10 c hp] at hv; exact text hv fun _ h => .inr (.inr h)
  · simp only [keyOrder, p2KeyOrder, List.mem_cons, List.mem_nil_iff, or_false] at hk
    rcases hk with rfl | rfl | rfl | rfl | rfl | rfl | rfl | rfl | rfl | rfl
    · rw [wv2_0 c hp] at hv; exact text hv fun _ h => .inl (profStr_some.mp h)
    · rw [wv2_1 c hp] at hv; exact int hv
    · rw [wv2_2 c hp] at hv; exact uint hv fun _ h => .inl h
    · rw [wv2_3 c hp] at hv; exact bytes hv fun _ h => .inl h
    · rw [wv2_4 c hp] at hv; exact bytes hv fun _ h => .inr (.inl h)
    · rw [wv2_5 c hp] at hv; exact text hv fun _ h => .inr (.inl h)
    · rw [wv2_6 c hp] at hv; exact sw hv
    · rw [wv2_7 c hp] at hv
      rcases nonceForm_some hv with ⟨b, hn, rfl⟩ | ⟨l, hn, rfl⟩
      · exact .bytes b (.inr (.inr (.inr hn))) rfl
      · exact .nonces l hn rfl
    · rw [wv2_8 c hp] at hv; exact bytes hv fun _ h => .inr (.inr (.inl h))
    · rw [wv2_9 c hp] at hv; exact text hv fun _ h => .inr (.inr h)

theorem okAt_wireVal (c : Claims) (hb : ClaimsBounded c) (k : Int) (hk : k ∈ keyOrder c.prof) (v : Cbor)
    (hv : wireVal c k = some v) : Cbor.OkAt {} v 1 := by
  obtain ⟨hClient, hLife, hNoSw, hProf, hImpl, hBoot, hCert, hInst, hVsi, hNonce, hSwLen, hSwEl⟩ := hb
  cases wireVal_kind c k hk v hv with
  | text s hs hv =>
    subst hv
    rcases hs with h | h | h
    · exact hProf s h
    · exact hCert s h
    · exact hVsi s h
  | bytes b hs hv =>
    subst hv
    rcases hs with h | h | h | h
    · exact hImpl b h
    · exact hBoot b h
    · exact hInst b h
    · exact (hNonce _ h).2 b List.mem_cons_self
  | int x hx hv => subst hv; exact okAt_cInt _ x 1 (by have := hClient x hx; unfold Enc.Int64; omega)
  | uint n hn hv =>
    subst hv
    rcases hn with h | h
    · have := hLife n h; simp only [Cbor.OkAt]; omega
    · exact hNoSw n h
  | comps hv =>
    subst hv
    refine okAt_compsWire _ (Nat.le_trans (List.length_filterMap_le _ _) hSwLen) fun sc hsc => ?_
    obtain ⟨a, ha, rfl⟩ := List.mem_filterMap.mp hsc
    exact hSwEl sc ha
  | nonces l hl hv =>
    subst hv
    have hh := hNonce l hl
    exact ⟨by rw [List.length_map]; omega, by decide, by rw [List.length_map]; exact hh.1, okAt_bstrs _ hh.2⟩

theorem okAt_wireToken (c : Claims) (hb : ClaimsBounded c) : Cbor.OkAt {} (wireToken c) 0 := by
  have hl : (wireEntries c).length ≤ (keyOrder c.prof).length := entriesOf_length_le _ _
  have hk : (keyOrder c.prof).length ≤ 11 := by cases c.prof <;> decide
  exact ⟨by omega, by decide, by simp only []; omega, okAtPairs_entriesOf (keyOrder_i64 c.prof) (okAt_wireVal c hb)⟩

end Psa.Proofs
