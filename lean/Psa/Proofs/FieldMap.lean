/-
  What the CBOR and the JSON side of the embedding-aware codec have in common (encoding/{cbor,json}.go are two
  copies of one design, and so are Psa/Model/Encoding.lean and Psa/Model/EncodingJson.lean): an insertion-ordered
  field map (`Keys` beside an association list `Fields`), a serialiser that `Add`s the present fields of a flat field
  list, and a populater that looks each field up, decodes it and `Delete`s it.  The two models are separate
  definitions, so the common part is stated over any types and functions that satisfy the defining equations below
  (`IsFieldMap`, `IsFieldCodec`); `Psa.Proofs.Enc.cbor` and `Psa.Proofs.EncJ.json` supply them, every equation by
  `rfl` or by rewriting with the definition.
-/
import Psa.Proofs.Outcome
import Psa.Proofs.Dec
import Psa.Proofs.Assoc
namespace Psa.Proofs
open Psa Psa.Model

section
variable {M κ ν : Type} [BEq κ]

/-- the ordered field map, by its defining equations -/
structure IsFieldMap (keys : M → List κ) (fields : M → List (κ × ν)) (make : List κ → List (κ × ν) → M)
    (has : M → κ → Bool) (get : M → κ → Option ν) (add : M → κ → ν → Outcome M) (delete : M → κ → M) : Prop where
  keys_make : ∀ ks fs, keys (make ks fs) = ks
  fields_make : ∀ ks fs, fields (make ks fs) = fs
  make_eta : ∀ m, make (keys m) (fields m) = m
  has_eq : ∀ m k, has m k = (fields m).any (·.1 == k)
  get_eq : ∀ m k, get m k = ((fields m).find? (·.1 == k)).map (·.2)
  add_eq : ∀ m k v, add m k v = if has m k then .err eOther else .ok (make (keys m ++ [k]) (fields m ++ [(k, v)]))
  delete_eq : ∀ m k, delete m k = make ((keys m).filter (· != k)) ((fields m).filter (·.1 != k))

namespace IsFieldMap
variable {keys : M → List κ} {fields : M → List (κ × ν)} {make : List κ → List (κ × ν) → M} {has : M → κ → Bool}
  {get : M → κ → Option ν} {add : M → κ → ν → Outcome M} {delete : M → κ → M}
  (P : IsFieldMap keys fields make has get add delete)
include P

theorem add_ok {m : M} {k : κ} (v : ν) (h : has m k = false) :
    add m k v = .ok (make (keys m ++ [k]) (fields m ++ [(k, v)])) := by
  simp [P.add_eq, h]

theorem add_dup {m : M} {k : κ} (v : ν) (h : has m k = true) : add m k v = .err eOther := by
  simp [P.add_eq, h]

theorem add_inv_ok {m m' : M} {k : κ} {v : ν} (h : add m k v = .ok m') :
    has m k = false ∧ m' = make (keys m ++ [k]) (fields m ++ [(k, v)]) := by
  rw [P.add_eq] at h
  by_cases hh : has m k = true
  · rw [if_pos hh] at h; cases h
  · rw [if_neg hh] at h; cases h
    exact ⟨Bool.eq_false_iff.2 hh, rfl⟩

theorem delete_inv (m : M) (k : κ) (ha : keys m = (fields m).map (·.1)) (hn : (keys m).Nodup) :
    keys (delete m k) = (fields (delete m k)).map (·.1) ∧ (keys (delete m k)).Nodup := by
  rw [P.delete_eq]
  refine ⟨?_, by rw [P.keys_make]; exact hn.filter _⟩
  simp only [P.keys_make, P.fields_make, ha, List.filter_map]; rfl

variable [LawfulBEq κ]

theorem has_iff (m : M) (k : κ) : has m k = true ↔ k ∈ (fields m).map (·.1) := by
  simp [P.has_eq, List.any_eq_true]

theorem add_inv {m m' : M} {k : κ} {v : ν} (ha : keys m = (fields m).map (·.1)) (hn : (keys m).Nodup)
    (h : add m k v = .ok m') : keys m' = (fields m').map (·.1) ∧ (keys m').Nodup := by
  obtain ⟨hh, rfl⟩ := P.add_inv_ok h
  have hk : k ∉ keys m := by rw [ha, ← P.has_iff, hh]; simp
  rw [P.keys_make, P.fields_make, List.map_append, ← ha]
  exact ⟨rfl, (List.nodup_cons.2 ⟨hk, hn⟩).perm (List.perm_append_singleton k _).symm⟩

theorem get_add_same {m m' : M} {k : κ} {v : ν} (h : add m k v = .ok m') : get m' k = some v := by
  obtain ⟨hh, rfl⟩ := P.add_inv_ok h
  have : (fields m).find? (fun x => x.1 == k) = none := List.find?_eq_none.2 (List.any_eq_false.1 (P.has_eq m k ▸ hh))
  simp [P.get_eq, P.fields_make, List.find?_append, this]

theorem get_add_other {m m' : M} {k k' : κ} {v : ν} (h : add m k v = .ok m') (hne : k' ≠ k) :
    get m' k' = get m k' := by
  obtain ⟨_, rfl⟩ := P.add_inv_ok h
  simp only [P.get_eq, P.fields_make, List.find?_append]
  cases hf : (fields m).find? (fun x => x.1 == k') with
  | some p => simp
  | none => simp [hne.symm]

theorem get_delete_same (m : M) (k : κ) : get (delete m k) k = none := by
  simp [P.get_eq, P.delete_eq, P.fields_make, List.find?_filter]

theorem get_delete_other (m : M) {k k' : κ} (hne : k' ≠ k) : get (delete m k) k' = get m k' := by
  simp only [P.get_eq, P.delete_eq, P.fields_make, List.find?_filter]
  congr 2
  funext a
  by_cases h : a.1 = k' <;> simp [h, hne]

theorem get_of_mem {m : M} {p : κ × ν} (hn : ((fields m).map (·.1)).Nodup) (hp : p ∈ fields m) : get m p.1 = some p.2 := by
  rw [P.get_eq, find?_key hn hp]; rfl

theorem has_of_nodup {m : M} {k : κ} {ks : List κ} (h : ((fields m).map (·.1) ++ k :: ks).Nodup) : has m k = false :=
  Bool.eq_false_iff.2 fun hh => (List.nodup_append.1 h).2.2 k ((P.has_iff m k).1 hh) k List.mem_cons_self rfl

end IsFieldMap
end

section
variable {M F κ ν α : Type}

/-- what the map holds for a field after serialisation -/
def written (omitempty : F → Bool) (enc : Option α → ν) (f : F) (v : Option α) : Option ν :=
  if omitempty f && v.isNone then none else some (enc v)

/-- the entries that are written: all but nil `omitempty` fields, in order -/
def entries (key : F → κ) (omitempty : F → Bool) (enc : Option α → ν) : List F → List (Option α) → List (κ × ν)
  | f :: fs, v :: vs =>
    if omitempty f && v.isNone then entries key omitempty enc fs vs else (key f, enc v) :: entries key omitempty enc fs vs
  | _, _ => []

/-- populating one field: look it up, decode it, delete it -/
def popField (get : M → κ → Option ν) (delete : M → κ → M) (key : F → κ) (omitempty : F → Bool)
    (dec : F → ν → Dec (Option α)) (f : F) (m : M) : Dec (Option α × M) :=
  match get m (key f) with
  | none => if omitempty f then .ok (none, m) else .err
  | some raw => (dec f raw).bind fun v => .ok (v, delete m (key f))

variable {get : M → κ → Option ν} {delete : M → κ → M} {key : F → κ} {omitempty : F → Bool} {enc : Option α → ν}
  {dec : F → ν → Dec (Option α)}

theorem entries_keys_sublist : ∀ (fs : List F) (vs : List (Option α)),
    ((entries key omitempty enc fs vs).map (·.1)).Sublist (fs.map key)
  | [], _ => by simp [entries]
  | _ :: _, [] => by simp [entries]
  | f :: fs, v :: vs => by
    simp only [entries]
    split
    · exact (entries_keys_sublist fs vs).cons _
    · exact (entries_keys_sublist fs vs).cons_cons _

theorem mem_entries : ∀ {fs : List F} {vs : List (Option α)} {p : κ × ν}, p ∈ entries key omitempty enc fs vs →
    ∃ q ∈ fs.zip vs, p = (key q.1, enc q.2)
  | [], _, _, h => by simp [entries] at h
  | _ :: _, [], _, h => by simp [entries] at h
  | f :: fs, v :: vs, p, h => by
    simp only [entries] at h
    split at h
    · obtain ⟨q, hq, e⟩ := mem_entries h
      exact ⟨q, by simp [hq], e⟩
    · rcases List.mem_cons.mp h with rfl | h
      · exact ⟨(f, v), by simp, rfl⟩
      · obtain ⟨q, hq, e⟩ := mem_entries h
        exact ⟨q, by simp [hq], e⟩

theorem popField_written {f : F} {m : M} {v : Option α} (hd : dec f (enc v) = .ok v)
    (hg : get m (key f) = written omitempty enc f v) : ∃ m1, popField get delete key omitempty dec f m = .ok (v, m1) := by
  unfold written at hg
  unfold popField
  split at hg
  · rename_i hom
    simp only [Bool.and_eq_true, Option.isNone_iff_eq_none] at hom
    exact ⟨m, by simp [hg, hom.1, hom.2]⟩
  · exact ⟨delete m (key f), by simp [hg, hd, Dec.bind]⟩

variable [BEq κ]

theorem find_entries [LawfulBEq κ] : ∀ {fs : List F} {vs : List (Option α)}, (fs.map key).Nodup → ∀ q ∈ fs.zip vs,
    ((entries key omitempty enc fs vs).find? (·.1 == key q.1)).map (·.2) = written omitempty enc q.1 q.2
  | f :: fs, v :: vs, hn, q, hq => by
    simp only [List.map_cons, List.nodup_cons] at hn
    simp only [entries, written]
    rcases List.mem_cons.mp hq with rfl | hq
    · split
      · have : ∀ x ∈ entries key omitempty enc fs vs, (x.1 == key f) = false := fun x hx =>
          beq_false_of_ne fun e => hn.1 (e ▸ (entries_keys_sublist fs vs).subset (List.mem_map_of_mem hx))
        simpa [List.find?_eq_none] using this
      · simp
    · have hne : (key f == key q.1) = false :=
        beq_false_of_ne fun e => hn.1 (e ▸ List.mem_map_of_mem (List.of_mem_zip hq).1)
      split
      · exact find_entries hn.2 q hq
      · rw [List.find?_cons, hne]; exact find_entries hn.2 q hq

/-- serialising and populating a flat field list over the ordered map, by their defining equations; `α` is the type
    of a field's value, `F` of its specification -/
structure IsFieldCodec (keys : M → List κ) (fields : M → List (κ × ν)) (make : List κ → List (κ × ν) → M)
    (has : M → κ → Bool) (get : M → κ → Option ν) (add : M → κ → ν → Outcome M) (delete : M → κ → M)
    (key : F → κ) (omitempty : F → Bool) (enc : Option α → ν) (dec : F → ν → Dec (Option α))
    (addFields : List F → List (Option α) → M → Outcome M) (popFields : List F → M → Dec (List (Option α) × M)) : Prop
    extends IsFieldMap keys fields make has get add delete where
  addFields_nil : ∀ vs m, addFields [] vs m = .ok m
  addFields_nil' : ∀ fs m, addFields fs [] m = .ok m
  addFields_cons : ∀ f fs v vs m, addFields (f :: fs) (v :: vs) m =
    if omitempty f && v.isNone then addFields fs vs m else (add m (key f) (enc v)).bind fun m' => addFields fs vs m'
  popFields_nil : ∀ m, popFields [] m = .ok ([], m)
  popFields_none : ∀ f fs m, get m (key f) = none → popFields (f :: fs) m =
    if omitempty f then (popFields fs m).map fun p => (none :: p.1, p.2) else .err
  popFields_some : ∀ f fs m raw, get m (key f) = some raw → popFields (f :: fs) m =
    (dec f raw).bind fun v => (popFields fs (delete m (key f))).map fun p => (v :: p.1, p.2)

namespace IsFieldCodec
variable {keys : M → List κ} {fields : M → List (κ × ν)} {make : List κ → List (κ × ν) → M} {has : M → κ → Bool}
  {get : M → κ → Option ν} {add : M → κ → ν → Outcome M} {delete : M → κ → M}
  {key : F → κ} {omitempty : F → Bool} {enc : Option α → ν} {dec : F → ν → Dec (Option α)}
  {addFields : List F → List (Option α) → M → Outcome M} {popFields : List F → M → Dec (List (Option α) × M)}
  (C : IsFieldCodec keys fields make has get add delete key omitempty enc dec addFields popFields)
include C

theorem addFields_append {b : List F} {vb : List (Option α)} : ∀ {a : List F} {va : List (Option α)} {m : M},
    a.length = va.length → addFields (a ++ b) (va ++ vb) m = (addFields a va m).bind (addFields b vb)
  | [], [], m, _ => by simp [C.addFields_nil, Outcome.bind]
  | f :: fs, v :: vs, m, h => by
    simp only [List.cons_append, C.addFields_cons]
    split
    · exact addFields_append (Nat.succ.inj h)
    · cases add m (key f) (enc v) with
      | ok m' => exact addFields_append (Nat.succ.inj h)
      | err | panic => rfl

/-- `popFields` threads the map through `popField`, field by field -/
theorem popFields_step (f : F) (fs : List F) (m : M) :
    popFields (f :: fs) m = (popField get delete key omitempty dec f m).bind fun p => (popFields fs p.2).map fun q => (p.1 :: q.1, q.2) := by
  unfold popField
  cases h : get m (key f) with
  | none => rw [C.popFields_none f fs m h]; cases omitempty f <;> rfl
  | some raw => rw [C.popFields_some f fs m raw h]; dsimp only; cases dec f raw <;> rfl

theorem popFields_cons_ok {f : F} {fs : List F} {m : M} {r : List (Option α) × M} :
    popFields (f :: fs) m = .ok r ↔
      ∃ x m1 vs, popField get delete key omitempty dec f m = .ok (x, m1) ∧ popFields fs m1 = .ok (vs, r.2) ∧ r.1 = x :: vs := by
  rw [C.popFields_step, Dec.bind_eq_ok]
  constructor
  · rintro ⟨⟨x, m1⟩, h1, h2⟩
    obtain ⟨⟨vs, m'⟩, h3, rfl⟩ := Dec.map_eq_ok.1 h2
    exact ⟨x, m1, vs, h1, h3, rfl⟩
  · rintro ⟨x, m1, vs, h1, h2, h3⟩
    exact ⟨(x, m1), h1, Dec.map_eq_ok.2 ⟨_, h2, by rw [← h3]⟩⟩

theorem popFields_append_ok {b : List F} {vb : List (Option α)} {m' : M} : ∀ {a : List F} {va : List (Option α)} {m : M},
    a.length = va.length → popFields (a ++ b) m = .ok (va ++ vb, m') →
    ∃ m1, popFields a m = .ok (va, m1) ∧ popFields b m1 = .ok (vb, m')
  | [], [], m, _, h => ⟨m, C.popFields_nil m, h⟩
  | f :: fs, v :: vs, m, hl, h => by
    obtain ⟨x, m1, ws, h1, h2, h3⟩ := C.popFields_cons_ok.1 h
    cases h3
    obtain ⟨m2, h4, h5⟩ := popFields_append_ok (Nat.succ.inj hl) h2
    exact ⟨m2, C.popFields_cons_ok.2 ⟨_, m1, vs, h1, h4, rfl⟩, h5⟩

variable [LawfulBEq κ]

/-- **serialising a flat field list, in closed form**: when the written keys are new to the map and pairwise distinct,
    `addFields` succeeds and appends exactly `entries`, to `Keys` and to `Fields` alike -/
theorem addFields_eq : ∀ {fs : List F} {vs : List (Option α)} {acc : M},
    ((fields acc).map (·.1) ++ (entries key omitempty enc fs vs).map (·.1)).Nodup →
    addFields fs vs acc =
      .ok (make (keys acc ++ (entries key omitempty enc fs vs).map (·.1)) (fields acc ++ entries key omitempty enc fs vs))
  | [], _, acc, _ => by simp [C.addFields_nil, entries, C.make_eta]
  | _ :: _, [], acc, _ => by simp [C.addFields_nil', entries, C.make_eta]
  | f :: fs, v :: vs, acc, hn => by
    rw [C.addFields_cons]
    simp only [entries] at hn ⊢
    by_cases hom : (omitempty f && v.isNone) = true
    · simp only [if_pos hom] at hn ⊢
      exact addFields_eq hn
    · simp only [if_neg hom] at hn ⊢
      rw [C.add_ok _ (C.has_of_nodup hn)]
      simp only [Outcome.bind]
      rw [addFields_eq (by simpa [C.fields_make] using hn)]
      simp [C.keys_make, C.fields_make]

/-- reading the closed form back: each listed field is found with what was `written` for it -/
theorem get_entries {fs : List F} {vs : List (Option α)} {m : M} (hn : (fs.map key).Nodup)
    (hm : fields m = entries key omitempty enc fs vs) : ∀ q ∈ fs.zip vs, get m (key q.1) = written omitempty enc q.1 q.2 :=
  fun q hq => by rw [C.get_eq, hm]; exact find_entries hn q hq

theorem popField_get {f : F} {m m1 : M} {x : Option α} (h : popField get delete key omitempty dec f m = .ok (x, m1)) :
    get m1 (key f) = none ∧ ∀ k, k ≠ key f → get m1 k = get m k := by
  unfold popField at h
  split at h
  · rename_i hg
    split at h
    · cases h; exact ⟨hg, fun _ _ => rfl⟩
    · cases h
  · obtain ⟨_, _, e⟩ := Dec.bind_eq_ok.1 h
    cases e
    exact ⟨C.get_delete_same m _, fun k hk => C.get_delete_other m hk⟩

theorem popFields_get : ∀ {fs : List F} {m : M} {r : List (Option α) × M}, popFields fs m = .ok r →
    (∀ k, k ∈ fs.map key → get r.2 k = none) ∧ (∀ k, k ∉ fs.map key → get r.2 k = get m k)
  | [], m, r, h => by
    rw [C.popFields_nil] at h; cases h; simp
  | f :: fs, m, r, h => by
    obtain ⟨x, m1, vs, h1, h2, _⟩ := C.popFields_cons_ok.1 h
    obtain ⟨a, b⟩ := popFields_get h2
    obtain ⟨c, d⟩ := C.popField_get h1
    refine ⟨fun k hk => ?_, fun k hk => ?_⟩
    · by_cases hin : k ∈ fs.map key
      · exact a k hin
      · have : k = key f := by simpa [hin] using hk
        rw [b k hin, this, c]
    · simp only [List.map_cons, List.mem_cons, not_or] at hk
      rw [b k hk.2, d k hk.1]

theorem popFields_missing_any : ∀ {fs : List F} {m : M} {f : F}, f ∈ fs → omitempty f = false →
    get m (key f) = none → ∀ r, popFields fs m ≠ .ok r
  | g :: fs, m, f, hf, ho, hm, r, h => by
    obtain ⟨x, m1, vs, h1, h2, _⟩ := C.popFields_cons_ok.1 h
    rcases List.mem_cons.mp hf with rfl | hf'
    · simp [popField, hm, ho] at h1
    · refine popFields_missing_any hf' ho ?_ _ h2
      by_cases hk : key f = key g
      · rw [hk]; exact (C.popField_get h1).1
      · rw [(C.popField_get h1).2 _ hk]; exact hm

/-- **populating a flat field list** from a map that holds what was `written` for each of its fields returns exactly
    the values -/
theorem popFields_ok : ∀ {fs : List F} {vs : List (Option α)} {m : M}, fs.length = vs.length →
    (fs.map key).Nodup → (∀ q ∈ fs.zip vs, dec q.1 (enc q.2) = .ok q.2) →
    (∀ q ∈ fs.zip vs, get m (key q.1) = written omitempty enc q.1 q.2) → ∃ m', popFields fs m = .ok (vs, m')
  | [], [], m, _, _, _, _ => ⟨m, C.popFields_nil m⟩
  | f :: fs, v :: vs, m, hl, hn, hd, hg => by
    simp only [List.map_cons, List.nodup_cons] at hn
    rw [List.zip_cons_cons, List.forall_mem_cons] at hd hg
    obtain ⟨m1, h1⟩ := popField_written (delete := delete) hd.1 hg.1
    obtain ⟨m', h2⟩ := popFields_ok (Nat.succ.inj hl) hn.2 hd.2 fun q hq => by
      rw [(C.popField_get h1).2 _ fun e => hn.1 (by rw [← e]; exact List.mem_map_of_mem (List.of_mem_zip hq).1)]
      exact hg.2 q hq
    exact ⟨m', C.popFields_cons_ok.2 ⟨v, m1, vs, h1, h2, rfl⟩⟩

theorem popFields_spec {fs : List F} {vs : List (Option α)} (m : M) (hl : fs.length = vs.length)
    (hn : (fs.map key).Nodup) (hd : ∀ q ∈ fs.zip vs, dec q.1 (enc q.2) = .ok q.2)
    (hg : ∀ q ∈ fs.zip vs, get m (key q.1) = written omitempty enc q.1 q.2) :
    ∃ m', popFields fs m = .ok (vs, m') ∧ (∀ k, k ∉ fs.map key → get m' k = get m k) ∧
      (∀ k, get m k = none → get m' k = none) ∧ (∀ k, k ∈ fs.map key → get m' k = none) := by
  obtain ⟨m', h⟩ := C.popFields_ok hl hn hd hg
  obtain ⟨a, b⟩ := C.popFields_get h
  refine ⟨m', h, b, fun k hk => ?_, a⟩
  by_cases hin : k ∈ fs.map key
  · exact a k hin
  · rw [b k hin, hk]

end IsFieldCodec
end
end Psa.Proofs
