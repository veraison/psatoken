/- CBOR side of the embedding-aware codec: flat field lists over the ordered map (`FieldMap.lean`), struct shapes flattened
   onto them.  `EncJsonShape.lean` is the same for JSON, over the JSON model's own types. -/
import Psa.Proofs.EncRead
namespace Psa.Proofs.Enc
open Psa Psa.Model Psa.Model.Enc

/-- a field value that fits its declared type (what a Go struct field of that type can hold) -/
def Typed (f : FieldSpec) : Option FVal → Prop
  | none => True
  | some (.int i) => f.ty = .int ∧ Int64 i
  | some (.text s) => f.ty = .text ∧ validUTF8 s = true ∧ s.length < 2 ^ 64
  | some (.bytes b) => f.ty = .bytes ∧ b.length < 2 ^ 64

/-- what the map holds for a field after serialisation -/
def expected (f : FieldSpec) (v : Option FVal) : Option Bytes :=
  if f.omitempty && v.isNone then none else some (encFVal v).enc

theorem encFVal_ok (f : FieldSpec) (v : Option FVal) (h : Typed f v) :
    Cbor.OkAt {} (encFVal v) 0 ∧ Cbor.hasTag (encFVal v) = false := by
  cases v with
  | none => simp [encFVal, Cbor.null, Cbor.OkAt, Cbor.hasTag]
  | some x =>
    cases x with
    | int i => exact ⟨(cInt_ok i h.2).1, (cInt_ok i h.2).2.1⟩
    | text s => simp [encFVal, Cbor.OkAt, Cbor.hasTag, h.2.2]
    | bytes b => simp [encFVal, Cbor.OkAt, Cbor.hasTag, h.2]

theorem decFVal_enc (f : FieldSpec) (v : Option FVal) (h : Typed f v) :
    decFVal f.ty (encFVal v).enc = .ok v := by
  unfold decFVal
  rw [Cbor.decodeAll_enc {} _ (encFVal_ok f v h).1]
  cases v with
  | none =>
    simp only [encFVal, Cbor.null]
    cases f.ty <;> simp [decIntRange, decText, decBytesVal, Dec.map, Dec.bind]
  | some x =>
    cases x with
    | int i => simp only [encFVal, h.1, (cInt_ok i h.2).2.2, Dec.map, Dec.bind, Option.map_some]
    | text s => simp [encFVal, h.1, decText, h.2.1, Dec.map, Dec.bind]
    | bytes b => simp [encFVal, h.1, decBytesVal, Dec.map, Dec.bind]

/-- as many values as fields, each fitting its field -/
def TypedAll : List FieldSpec → List (Option FVal) → Prop
  | [], [] => True
  | f :: fs, v :: vs => Typed f v ∧ TypedAll fs vs
  | _, _ => False

theorem typedAll_length : ∀ {fs vs}, TypedAll fs vs → fs.length = vs.length
  | [], [], _ => rfl
  | _ :: _, _ :: _, h => congrArg (· + 1) (typedAll_length h.2)

theorem typedAll_zip : ∀ {fs vs}, TypedAll fs vs → ∀ q ∈ fs.zip vs, Typed q.1 q.2
  | [], _, _, _, hq => nomatch hq
  | _ :: _, [], h, _, _ => h.elim
  | f :: fs, v :: vs, h, q, hq => by
    rcases List.mem_cons.mp hq with rfl | hq
    · exact h.1
    · exact typedAll_zip h.2 q hq

theorem cbor : IsFieldCodec OMap.keys OMap.fields OMap.mk OMap.has OMap.get OMap.add OMap.delete
    FieldSpec.key FieldSpec.omitempty (fun v => (encFVal v).enc) (fun f => decFVal f.ty) addFields popFields where
  toIsFieldMap := cborMap
  addFields_nil _ _ := rfl
  addFields_nil' fs _ := by cases fs <;> rfl
  addFields_cons _ _ _ _ _ := rfl
  popFields_nil _ := rfl
  popFields_none f fs m h := by rw [popFields, h]
  popFields_some f fs m raw h := by rw [popFields, h]

theorem typedAll_dec {fs : List FieldSpec} {vs : List (Option FVal)} (h : TypedAll fs vs) :
    ∀ q ∈ fs.zip vs, decFVal q.1.ty (encFVal q.2).enc = .ok q.2 :=
  fun q hq => decFVal_enc q.1 q.2 (typedAll_zip h q hq)

theorem popFields_missing (f : FieldSpec) (fs : List FieldSpec) (m : OMap) (hm : m.get f.key = none)
    (ho : f.omitempty = false) : popFields (f :: fs) m = .err := by
  simp [popFields, hm, ho]

mutual
/-- all fields of a shape, outer first, then each embedded struct's in turn -/
def specs : Shape → List FieldSpec
  | .mk fields embeds => fields ++ specsList embeds
def specsList : List Shape → List FieldSpec
  | [] => []
  | s :: ss => specs s ++ specsList ss
end

mutual
def flat : SVal → List (Option FVal)
  | .mk vals evs => vals ++ flatList evs
def flatList : List SVal → List (Option FVal)
  | [] => []
  | v :: vs => flat v ++ flatList vs
end

mutual
/-- the value has the shape's structure and every field value fits its type -/
def Fits : Shape → SVal → Prop
  | .mk fields embeds, .mk vals evs => TypedAll fields vals ∧ FitsList embeds evs
def FitsList : List Shape → List SVal → Prop
  | [], [] => True
  | s :: ss, v :: vs => Fits s v ∧ FitsList ss vs
  | _, _ => False
end

theorem typedAll_append {b : List FieldSpec} {vb : List (Option FVal)} : ∀ {a : List FieldSpec} {va : List (Option FVal)},
    TypedAll a va → TypedAll b vb → TypedAll (a ++ b) (va ++ vb)
  | [], [], _, h => h
  | _ :: _, _ :: _, h1, h2 => ⟨h1.1, typedAll_append h1.2 h2⟩

mutual
theorem fits_typed : ∀ (sh : Shape) (v : SVal), Fits sh v → TypedAll (specs sh) (flat v)
  | .mk fields embeds, .mk vals evs, h => by
    simp only [specs, flat]
    exact typedAll_append h.1 (fitsList_typed embeds evs h.2)
theorem fitsList_typed : ∀ (ss : List Shape) (vs : List SVal), FitsList ss vs → TypedAll (specsList ss) (flatList vs)
  | [], [], _ => trivial
  | s :: ss, v :: vs, h => by
    simp only [specsList, flatList]
    exact typedAll_append (fits_typed s v h.1) (fitsList_typed ss vs h.2)
end

mutual
/-- serialising a struct with embedding is serialising the flattened field list -/
theorem serializeInto_flat : ∀ (sh : Shape) (v : SVal) (m : OMap), Fits sh v →
    serializeInto sh v m = addFields (specs sh) (flat v) m
  | .mk fields embeds, .mk vals evs, m, h => by
    simp only [serializeInto, specs, flat]
    rw [cbor.addFields_append (typedAll_length h.1)]
    exact bind_congr fun m' _ => serializeEmbeds_flat embeds evs m' h.2
theorem serializeEmbeds_flat : ∀ (ss : List Shape) (vs : List SVal) (m : OMap), FitsList ss vs →
    serializeEmbeds ss vs m = addFields (specsList ss) (flatList vs) m
  | [], [], m, _ => by simp [serializeEmbeds, specsList, flatList, addFields]
  | s :: ss, v :: vs, m, h => by
    simp only [serializeEmbeds, specsList, flatList]
    rw [cbor.addFields_append (typedAll_length (fits_typed s v h.1)), serializeInto_flat s v m h.1]
    exact bind_congr fun m' _ => serializeEmbeds_flat ss vs m' h.2
end

mutual
/-- … and so is populating: if the flattened field list populates to the flattened value, the struct populates to
    the value -/
theorem populateFrom_flat : ∀ (sh : Shape) (v : SVal) (m m' : OMap), Fits sh v →
    popFields (specs sh) m = .ok (flat v, m') → populateFrom sh m = .ok (v, m')
  | .mk fields embeds, .mk vals evs, m, m', hf, h => by
    obtain ⟨m1, h1, h2⟩ := cbor.popFields_append_ok (typedAll_length hf.1) h
    simp [populateFrom, h1, populateEmbeds_flat embeds evs m1 m' hf.2 h2, Dec.bind, Dec.map]
theorem populateEmbeds_flat : ∀ (ss : List Shape) (vs : List SVal) (m m' : OMap), FitsList ss vs →
    popFields (specsList ss) m = .ok (flatList vs, m') → populateEmbeds ss m = .ok (vs, m')
  | [], [], m, m', _, h => by simpa [specsList, flatList, popFields, populateEmbeds] using h
  | s :: ss, v :: vs, m, m', hf, h => by
    obtain ⟨m1, h1, h2⟩ := cbor.popFields_append_ok (typedAll_length (fits_typed s v hf.1)) h
    simp [populateEmbeds, populateFrom_flat s v m m1 hf.1 h1, populateEmbeds_flat ss vs m1 m' hf.2 h2, Dec.bind, Dec.map]
end

theorem populateEmbeds_spec : ∀ (ss : List Shape) (vs : List SVal) (m : OMap), FitsList ss vs →
    ((specsList ss).map (·.key)).Nodup →
    (∀ p ∈ (specsList ss).zip (flatList vs), m.get p.1.key = expected p.1 p.2) →
    ∃ m', populateEmbeds ss m = .ok (vs, m') ∧ (∀ k, k ∉ (specsList ss).map (·.key) → m'.get k = m.get k) ∧
      (∀ k, m.get k = none → m'.get k = none) ∧ (∀ k, k ∈ (specsList ss).map (·.key) → m'.get k = none) := by
  intro ss vs m hf hn hg
  have ht := fitsList_typed ss vs hf
  obtain ⟨m', h1, h2⟩ := cbor.popFields_spec m (typedAll_length ht) hn (typedAll_dec ht) hg
  exact ⟨m', populateEmbeds_flat ss vs m m' hf h1, h2⟩

end Psa.Proofs.Enc
