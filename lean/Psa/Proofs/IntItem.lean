/- Integer items: `cInt` by sign (`cInt_cases`, the one place where `Cbor.ofInt` is unfolded), and what the well-formedness
   predicate, the key reader and the integer decoder make of one. -/
import Psa.Model.Codec
import Psa.Cbor.OkAt
namespace Psa.Proofs
open Psa Psa.Model

theorem cInt_cases (i : Int) :
    (∃ n : Nat, i = n ∧ cInt i = .uint n) ∨ (∃ n : Nat, i = -1 - (n : Int) ∧ cInt i = .nint n) := by
  unfold cInt Cbor.ofInt
  split
  · exact .inl ⟨i.toNat, by omega, rfl⟩
  · exact .inr ⟨(-i - 1).toNat, by omega, rfl⟩

theorem cInt_injective (i j : Int) (h : cInt i = cInt j) : i = j := by
  rcases cInt_cases i with ⟨n, rfl, e⟩ | ⟨n, rfl, e⟩ <;> rcases cInt_cases j with ⟨m, rfl, e'⟩ | ⟨m, rfl, e'⟩ <;>
    rw [e, e'] at h <;> cases h <;> rfl

/-- an `int64` (Go `int`, and the range of a map key) -/
def Enc.Int64 (k : Int) : Prop := -9223372036854775808 ≤ k ∧ k ≤ 9223372036854775807

theorem okAt_cInt (lim : Cbor.Limits) (i : Int) (d : Nat) (h : Enc.Int64 i) : Cbor.OkAt lim (cInt i) d := by
  unfold Enc.Int64 at h
  rcases cInt_cases i with ⟨n, rfl, e⟩ | ⟨n, rfl, e⟩ <;> rw [e, Cbor.OkAt] <;> omega

theorem keyRes_cInt (k : Int) (h : Enc.Int64 k) : keyRes (cInt k) = .int k := by
  unfold Enc.Int64 at h
  rcases cInt_cases k with ⟨n, rfl, e⟩ | ⟨n, rfl, e⟩ <;> rw [e, keyRes, if_pos (by omega)]

theorem decInt_cInt (lo hi i : Int) (h1 : lo ≤ i) (h2 : i ≤ hi) (hlo : -2 ^ 63 ≤ lo) :
    decIntRange lo hi (cInt i) = .ok (some i) := by
  rcases cInt_cases i with ⟨n, rfl, e⟩ | ⟨n, rfl, e⟩ <;> rw [e, decIntRange]
  · rw [if_pos h2]
  · rw [if_pos (by omega)]

end Psa.Proofs
