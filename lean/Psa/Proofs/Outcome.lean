/- `Outcome` plumbing: that no panic arises (closed under `bind` and `map`), when a bind succeeds, checks. -/
import Psa.Basic
namespace Psa.Proofs
open Psa

def NoPanic {α} (o : Outcome α) : Prop := ∀ s, o ≠ .panic s

theorem np_ok {α} (a : α) : NoPanic (Outcome.ok a) := by intro s h; cases h
theorem np_err {α} (e : ErrMask) : NoPanic (Outcome.err e : Outcome α) := by intro s h; cases h

theorem np_bind {α β} (o : Outcome α) (f : α → Outcome β) (h1 : NoPanic o) (h2 : ∀ a, o = .ok a → NoPanic (f a)) :
    NoPanic (o.bind f) := by
  cases o with
  | ok a => exact h2 a rfl
  | err e => exact np_err e
  | panic s => exact absurd rfl (h1 s)

theorem np_map {α β} (o : Outcome α) (f : α → β) (h1 : NoPanic o) : NoPanic (o.map f) := by
  cases o with
  | ok a => exact np_ok _
  | err e => exact np_err e
  | panic s => exact absurd rfl (h1 s)

theorem bind_ok_iff {α β} (x : Outcome α) (f : α → Outcome β) (b : β) :
    x.bind f = .ok b ↔ ∃ a, x = .ok a ∧ f a = .ok b := by
  cases x <;> simp [Outcome.bind]

theorem bind_congr {α β} {x : Outcome α} {f g : α → Outcome β} (h : ∀ a, x = .ok a → f a = g a) : x.bind f = x.bind g := by
  cases x with
  | ok a => exact h a rfl
  | err | panic => rfl

theorem bind_unit_err {β} (x : Outcome Unit) (f : Unit → Outcome β) (m : ErrMask)
    (h : x.bind f = .err m) : x = .err m ∨ (x = .ok () ∧ f () = .err m) := by
  cases x with
  | ok _ => exact .inr ⟨rfl, h⟩
  | err _ =>
    cases h
    exact .inl rfl
  | panic _ => cases h

/-- A check is an outcome of the form `if p then .ok () else .err m`: every validator is one (the `validate*_eq` lemmas of
    `Proofs/Lifecycle.lean` and `Proofs/Claims.lean`); a getter uses one through these two facts. -/
theorem check_ok_iff {p : Prop} [Decidable p] {m : ErrMask} :
    (if p then Outcome.ok () else .err m) = .ok () ↔ p := by
  split <;> simp [*]

theorem check_bind {β} {p : Prop} [Decidable p] {m : ErrMask} (f : Unit → Outcome β) :
    (if p then Outcome.ok () else .err m).bind f = if p then f () else .err m := by
  split <;> rfl

end Psa.Proofs
