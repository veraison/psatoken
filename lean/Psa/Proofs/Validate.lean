/- What the ten getters answer (one contract, `get_answers`), and the walk of `ValidateClaims` over them. -/
import Psa.Proofs.Claims
namespace Psa.Proofs
open Psa Psa.Model Psa.Spec

/-- the conjunct of `Conformant` that concerns claim `g` -/
def ClaimOK : Getter → Claims → Prop
  | .profile, c => match c.prof with
    | .p1 => c.profile = none ∨ c.profile = some (.str c.canonical)
    | .p2 => c.profile = some (.str c.canonical)
  | .clientId, c => c.clientId ≠ none
  | .lifecycle, c => ∃ v, c.lifecycle = some v ∧ LifecycleOK v
  | .implId, c => ∃ b, c.implId = some b ∧ b.length = 32
  | .bootSeed, c => match c.prof with
    | .p1 => ∃ b, c.bootSeed = some b ∧ b.length = 32
    | .p2 => ∀ b, c.bootSeed = some b → 8 ≤ b.length ∧ b.length ≤ 32
  | .certRef, c => match c.prof with
    | .p1 => ∀ s, c.certRef = some s → Ean13 s ∨ Ean13p5 s
    | .p2 => ∀ s, c.certRef = some s → Ean13p5 s
  | .sw, c => match c.prof with
    | .p1 => (ComponentsOK c.sw ∧ c.noSw = none) ∨ (NoComponents c.sw ∧ c.noSw ≠ none)
    | .p2 => ComponentsOK c.sw
  | .nonce, c => ∃ n, c.nonce = some [n] ∧ HashLen n.length
  | .instId, c => ∃ b, c.instId = some b ∧ InstOK b
  | .vsi, c => ∀ s, c.vsi = some s → s ≠ []

theorem conformant_iff_all (c : Claims) : Conformant c ↔ ∀ g, ClaimOK g c := by
  have all : (∀ g, ClaimOK g c) ↔ ClaimOK .profile c ∧ ClaimOK .clientId c ∧ ClaimOK .lifecycle c ∧ ClaimOK .implId c ∧
      ClaimOK .bootSeed c ∧ ClaimOK .certRef c ∧ ClaimOK .sw c ∧ ClaimOK .nonce c ∧ ClaimOK .instId c ∧ ClaimOK .vsi c :=
    ⟨fun h => ⟨h _, h _, h _, h _, h _, h _, h _, h _, h _, h _⟩,
      fun ⟨h1, h2, h3, h4, h5, h6, h7, h8, h9, h10⟩ g => by cases g <;> assumption⟩
  rw [all]
  -- in either profile, `Conformant` is by definition the conjunction of the ten rules
  obtain ⟨prof, canonical, profile, clientId, lifecycle, implId, bootSeed, certRef, sw, noSw, nonce, instId, vsi⟩ := c
  cases prof <;> exact Iff.rfl

/-- claim `g` is absent.  The component list is absent when it has no element and, in profile 1, the "no measurements"
    flag is not set either: with the flag the claim is present and says "none". -/
def Absent : Getter → Claims → Prop
  | .profile, c => c.profile = none
  | .clientId, c => c.clientId = none
  | .lifecycle, c => c.lifecycle = none
  | .implId, c => c.implId = none
  | .bootSeed, c => c.bootSeed = none
  | .certRef, c => c.certRef = none
  | .sw, c => c.sw.elems = [] ∧ (c.prof = .p1 → c.noSw = none)
  | .nonce, c => c.nonce = none
  | .instId, c => c.instId = none
  | .vsi, c => c.vsi = none

/-- the classes of error with which getter `g` refuses a claim that is present -/
def Refusal (g : Getter) (c : Claims) (m : ErrMask) : Prop :=
  match g with
  | .profile => m = eWrongProfile ∨ (c.profile = some .invalid ∧ m = eOther)
  | .sw => CompErr m
  | _ => m = eWrongSyntax

/-- What an answer of getter `g` on `c` says about `c`.  A value is conformant, and the claim is in order.  An absent
    claim is reported as missing, mandatory or optional (profile 1's profile claim apart: absent, it reads as the
    canonical name).  Any other error is of the class documented for the claim, and the claim is not in order. -/
def Answers (g : Getter) (c : Claims) : Outcome Val → Prop
  | .ok v => ConformantVal c.prof c.canonical g v ∧ ClaimOK g c ∧ (Absent g c → g = .profile ∧ c.prof = .p1)
  | .err m =>
    (Absent g c ∧ m = (if Mandatory c.prof g then eMissingMandatory else eMissingOptional) ∧
      (ClaimOK g c ↔ Mandatory c.prof g = false)) ∨
    (¬ Absent g c ∧ ¬ ClaimOK g c ∧ Refusal g c m)
  | .panic _ => False

theorem componentsOK_ne (f : SwField) (h : ComponentsOK f) : f.elems ≠ [] := by
  obtain ⟨l, hl, he, _⟩ := h
  rwa [he, Ne, List.map_eq_nil_iff]

theorem values_cases (f : SwField) (hne : f.elems ≠ []) :
    (∃ l, valuesOf f.elems = .ok l ∧ (∀ p n, ConformantVal p n .sw (.comps (some l))) ∧ ComponentsOK f) ∨
    (∃ m, valuesOf f.elems = .err m ∧ CompErr m ∧ ¬ ComponentsOK f) := by
  rcases valuesOf_cases f.elems with ⟨r, hr, he, hall⟩ | ⟨m, hm, hc, hno⟩
  · have : r ≠ [] := fun h => hne (by rw [he, h]; rfl)
    exact Or.inl ⟨r, hr, fun _ _ => ⟨this, hall⟩, r, this, he, hall⟩
  · exact Or.inr ⟨m, hm, hc, fun ⟨l, _, hl, hall⟩ => hno l hl hall⟩

theorem Answers.absent {g : Getter} {c : Claims} (ha : Absent g c) (hc : ClaimOK g c ↔ Mandatory c.prof g = false) :
    Answers g c (.err (if Mandatory c.prof g then eMissingMandatory else eMissingOptional)) :=
  Or.inl ⟨ha, rfl, hc⟩

/-- a present claim: the getter's test `p` is the claim's rule, a value that passes is handed out, one that does not is
    refused -/
theorem Answers.check {g : Getter} {c : Claims} {p : Prop} [Decidable p] {v : Val} {m : ErrMask} (ha : ¬ Absent g c)
    (hc : ClaimOK g c ↔ p) (hv : p → ConformantVal c.prof c.canonical g v) (hr : Refusal g c m) :
    Answers g c (if p then .ok v else .err m) := by
  split
  · exact ⟨hv ‹p›, hc.mpr ‹p›, fun h => absurd h ha⟩
  · exact Or.inr ⟨ha, fun h => ‹¬ p› (hc.mp h), hr⟩

theorem get_answers (g : Getter) (c : Claims) : Answers g c (Model.get g c) := by
  obtain ⟨prof, canonical, profile, clientId, lifecycle, implId, bootSeed, certRef, sw, noSw, nonce, instId, vsi⟩ := c
  cases g <;> simp only [Model.get]
  case profile =>
    cases prof <;> rcases profile with _ | s | _ <;> simp only [getProfile, ite_bne]
    · exact ⟨rfl, Or.inl rfl, fun _ => ⟨rfl, rfl⟩⟩
    · exact .check nofun (by simp [ClaimOK]) id (Or.inl rfl)
    · exact Or.inr ⟨nofun, by simp [ClaimOK], Or.inr ⟨rfl, rfl⟩⟩
    · exact .absent rfl (by simp [ClaimOK, Mandatory])
    · exact .check nofun (by simp [ClaimOK]) id (Or.inl rfl)
    · exact Or.inr ⟨nofun, by simp [ClaimOK], Or.inr ⟨rfl, rfl⟩⟩
  case clientId =>
    cases clientId with
    | none => exact .absent rfl (by simp [ClaimOK, Mandatory])
    | some v => exact ⟨trivial, by simp [ClaimOK], nofun⟩
  case lifecycle =>
    cases lifecycle with
    | none => exact .absent rfl (by simp [ClaimOK, Mandatory])
    | some v =>
      simp only [getSecurityLifeCycle, validateSecurityLifeCycle_eq, check_bind]
      exact .check nofun (by simp [ClaimOK, LifecycleOK]) id rfl
  case implId =>
    cases implId with
    | none => exact .absent rfl (by simp [ClaimOK, Mandatory])
    | some v =>
      simp only [getImplID, validateImplID_eq, check_bind]
      exact .check nofun (by simp [ClaimOK]) id rfl
  case bootSeed =>
    cases prof <;> cases bootSeed with
    | none => exact .absent rfl (by simp [ClaimOK, Mandatory])
    | some v =>
      simp only [getBootSeed, ite_bne, ite_outside]
      exact .check nofun (by simp [ClaimOK]) id rfl
  case certRef =>
    cases prof <;> cases certRef with
    | none => exact .absent rfl (by simp [ClaimOK, Mandatory])
    | some s =>
      simp only [getCertificationReference, ite_bnot, ite_bnot_and]
      exact .check nofun (by simp [ClaimOK, isEan13_iff, isEan13p5_iff])
        (by simp [ConformantVal, isEan13_iff, isEan13p5_iff]) rfl
  case sw =>
    by_cases he : sw.elems = []
    · have hno : ¬ ComponentsOK sw := fun h => componentsOK_ne _ h he
      cases prof <;> cases noSw <;>
        simp [getSoftwareComponents, SwField.nilOrEmpty, Answers, ConformantVal, ClaimOK, Absent, Mandatory,
          NoComponents, he, hno]
    · have hn : sw.nilOrEmpty = false := by simp [SwField.nilOrEmpty, he]
      -- components present: `valuesOf` decides wherever the claim's rule is "the components are in order"
      have walk : ∀ c : Claims, c.sw = sw → (ClaimOK .sw c ↔ ComponentsOK sw) →
          Answers .sw c ((valuesOf sw.elems).bind fun l => .ok (.comps (some l))) := by
        rintro c rfl hc
        have ha : ¬ Absent .sw c := fun h => he h.1
        rcases values_cases c.sw he with ⟨l, hl, hv, hok⟩ | ⟨m, hm, hce, hno⟩ <;> rw [‹valuesOf _ = _›]
        · exact ⟨hv _ _, hc.mpr hok, fun h => absurd h ha⟩
        · exact Or.inr ⟨ha, fun h => hno (hc.mp h), hce⟩
      cases prof <;> simp only [getSoftwareComponents, hn, Bool.false_eq_true, if_false]
      · cases noSw with
        | none => exact walk _ rfl (by simp [ClaimOK, NoComponents, he])
        -- profile 1 has also said "no measurements"
        | some n => exact Or.inr ⟨fun h => he h.1, by simp [ClaimOK, NoComponents, he], Or.inr rfl⟩
      · exact walk _ rfl Iff.rfl
  case nonce =>
    rcases nonce with _ | _ | ⟨n, _ | _⟩
    · exact .absent rfl (by simp [ClaimOK, Mandatory])
    · exact Or.inr ⟨nofun, by simp [ClaimOK], rfl⟩
    · simp only [getNonce, validateNonce, validatePSAHashType_eq, check_bind]
      exact .check nofun (by simp [ClaimOK, HashLen]) id rfl
    · exact Or.inr ⟨nofun, by simp [ClaimOK], rfl⟩
  case instId =>
    cases instId with
    | none => exact .absent rfl (by simp [ClaimOK, Mandatory])
    | some v =>
      simp only [getInstID, validateInstID_eq, check_bind]
      exact .check nofun (by simp [ClaimOK, InstOK]) id rfl
  case vsi =>
    cases vsi with
    | none => exact .absent rfl (by simp [ClaimOK, Mandatory])
    | some v =>
      simp only [getVSI, validateVSI_eq, check_bind]
      exact .check nofun (by simp [ClaimOK]) id rfl

theorem Refusal.unfiltered {g : Getter} {c : Claims} {m : ErrMask} (h : Refusal g c m) : filtered m = false := by
  cases g <;> simp only [Refusal] at h
  case profile => rcases h with rfl | ⟨_, rfl⟩ <;> rfl
  case sw => exact h.unfiltered
  all_goals (subst h; rfl)

theorem noPanic_comp_validate (sc : SwComp) : NoPanic sc.validate := by
  rcases comp_validate_cases sc with ⟨h, _⟩ | ⟨m, h, _⟩ <;> rw [h]
  · exact np_ok _
  · exact np_err _

theorem noPanic_get (g : Getter) (c : Claims) : NoPanic (Model.get g c) := fun s hs => by
  have := get_answers g c; rwa [hs] at this

theorem get_ok_conformant (g : Getter) (c : Claims) (v : Val) (h : Model.get g c = .ok v) :
    ConformantVal c.prof c.canonical g v := by
  have := get_answers g c; rw [h] at this; exact this.1

theorem absent_class (g : Getter) (c : Claims) (h : Absent g c) (hx : ¬ (g = .profile ∧ c.prof = .p1)) :
    Model.get g c = .err (if Mandatory c.prof g then eMissingMandatory else eMissingOptional) := by
  have := get_answers g c
  generalize Model.get g c = r at this
  match r, this with
  | .ok _, ⟨_, _, ha⟩ => exact absurd (ha h) hx
  | .err _, .inl ⟨_, hm, _⟩ => rw [hm]
  | .err _, .inr ⟨hn, _⟩ => exact absurd h hn

theorem present_err_class (g : Getter) (c : Claims) (m : ErrMask) (hne : ¬ Absent g c)
    (hp : c.profile ≠ some .invalid) (h : Model.get g c = .err m) :
    (g = .profile → m = eWrongProfile) ∧
    (g ≠ .profile → m = eWrongSyntax ∨ (g = .sw ∧ m = eMissingMandatory)) := by
  have := get_answers g c
  rw [h] at this
  rcases this with ⟨ha, _⟩ | ⟨_, _, hr⟩
  · exact absurd ha hne
  · refine ⟨fun hg => ?_, fun hg => ?_⟩
    · subst hg; exact hr.resolve_right fun h => hp h.1
    · cases g
      case profile => exact absurd rfl hg
      case sw => exact hr.symm.imp_right fun h => ⟨rfl, h⟩
      all_goals exact Or.inl hr

def Pass (g : Getter) (c : Claims) : Prop := filterError (get g c) = .ok ()

theorem pass_iff (g : Getter) (c : Claims) : Pass g c ↔ ClaimOK g c := by
  have := get_answers g c
  unfold Pass
  generalize Model.get g c = r at this
  match r, this with
  | .ok _, ⟨_, hc, _⟩ => exact ⟨fun _ => hc, fun _ => rfl⟩
  | .err _, .inl ⟨_, hm, hc⟩ => rw [hm, hc]; cases Mandatory c.prof g <;> decide
  | .err _, .inr ⟨_, hc, hr⟩ => simp [filterError, hr.unfiltered, hc]

theorem pass_cases (g : Getter) (c : Claims) (h : Pass g c) :
    (∃ v, Model.get g c = .ok v) ∨ (Mandatory c.prof g = false ∧ Model.get g c = .err eMissingOptional) := by
  have := get_answers g c
  unfold Pass at h
  generalize Model.get g c = r at this h
  match r, this with
  | .ok v, _ => exact Or.inl ⟨v, rfl⟩
  | .err _, .inl ⟨_, hm, _⟩ =>
    subst hm
    cases hM : Mandatory c.prof g <;> rw [hM] at h
    · exact Or.inr ⟨rfl, rfl⟩
    · cases h
  | .err _, .inr ⟨_, _, hr⟩ => simp [filterError, hr.unfiltered] at h

theorem get_sw_irrelevant (g : Getter) (c : Claims) (f : SwField) (h : f.elems = c.sw.elems) :
    Model.get g { c with sw := f } = Model.get g c := by
  cases g
  case sw => simp only [Model.get, getSoftwareComponents, SwField.nilOrEmpty, h]; cases c.prof <;> rfl
  all_goals rfl

theorem validateWith_congr {c c' : Claims} (h : ∀ g, Model.get g c' = Model.get g c) (o : List Getter) :
    validateWith o c' = validateWith o c := by
  induction o with
  | nil => rfl
  | cons g rest ih => simp only [validateWith, h g, ih]

/-- `ValidateClaims` accepts when every getter's answer passes the filter, and otherwise reports, unchanged, an answer
    of the walk that does not -/
theorem validateWith_cases (o : List Getter) (c : Claims) :
    (validateWith o c = .ok () ∧ ∀ g ∈ o, Pass g c) ∨
    (∃ m, validateWith o c = .err m ∧ ∃ g ∈ o, Model.get g c = .err m ∧ filtered m = false) := by
  induction o with
  | nil => exact Or.inl ⟨rfl, by simp⟩
  | cons g rest ih =>
    simp only [validateWith]
    cases hf : filterError (Model.get g c) with
    | ok _ =>
      rcases ih with ⟨h, hp⟩ | ⟨m, h, g', hg', hr⟩
      · exact Or.inl ⟨h, List.forall_mem_cons.mpr ⟨hf, hp⟩⟩
      · exact Or.inr ⟨m, h, g', List.mem_cons_of_mem _ hg', hr⟩
    | err m => exact Or.inr ⟨m, rfl, g, List.mem_cons_self, (filterError_err_iff _ _).mp hf⟩
    | panic s => exact absurd ((filterError_panic_iff _ _).mp hf) (noPanic_get g c s)

theorem validateWith_ok_iff (o : List Getter) (c : Claims) :
    validateWith o c = .ok () ↔ ∀ g ∈ o, Pass g c := by
  rcases validateWith_cases o c with ⟨h, hp⟩ | ⟨m, h, g, hg, hget, hf⟩
  · exact ⟨fun _ => hp, fun _ => h⟩
  · rw [h]
    refine ⟨nofun, fun hp => ?_⟩
    have := hp g hg
    simp [Pass, hget, filterError, hf] at this

theorem validateWith_err (o : List Getter) (c : Claims) (m : ErrMask) (h : validateWith o c = .err m) :
    ∃ g ∈ o, Model.get g c = .err m ∧ filtered m = false := by
  rcases validateWith_cases o c with ⟨h', _⟩ | ⟨m', h', hg⟩ <;> rw [h'] at h <;> cases h
  exact hg

theorem noPanic_validateWith (o : List Getter) (c : Claims) : NoPanic (validateWith o c) := by
  rcases validateWith_cases o c with ⟨h, _⟩ | ⟨m, h, _⟩ <;> rw [h]
  · exact np_ok _
  · exact np_err _

theorem mem_validateOrder (g : Getter) : g ∈ validateOrder := by cases g <;> decide

theorem validateWith_iff_conformant (o : List Getter) (c : Claims) (h : ∀ g, g ∈ o) :
    validateWith o c = .ok () ↔ Conformant c := by
  rw [validateWith_ok_iff, conformant_iff_all]
  exact ⟨fun hp g => (pass_iff g c).mp (hp g (h g)), fun hc g _ => (pass_iff g c).mpr (hc g)⟩

theorem validate_iff_conformant (c : Claims) : validate c = .ok () ↔ Conformant c :=
  validateWith_iff_conformant _ c mem_validateOrder

end Psa.Proofs
