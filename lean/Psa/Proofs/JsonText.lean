/-
  JSON text layer (Psa/Model/JsonText.lean): reading back what was rendered.  Strings: `Reads c e` says that one
  reader step on `e` yields the source bytes `c`; it holds of each thing the writer emits, and `parseBody_step` chains
  such steps.  Documents: one lemma per parser production, composed by mutual recursion over the tree.  In particular
  the fuel `parseDoc` uses never binds on rendered documents.  (Namespace `Psa.Model.JText`, that of the definitions.)
-/
import Psa.Model.JsonText
namespace Psa.Model.JText
open Psa Psa.Model

theorem hexVal_hexDigit (n : Nat) (h : n < 16) : hexVal (hexDigit n) = some n := by
  have : ∀ k : Fin 16, hexVal (hexDigit k.val) = some k.val := by decide
  exact this ⟨n, h⟩

theorem u8_ne_of_toNat {a b : UInt8} (h : a.toNat ≠ b.toNat) : a ≠ b := fun e => h (by rw [e])

/-! ### strings: one reader step per writer step -/

/-- the byte a two-character escape `\c` stands for: the table `simple` inside `parseBody` -/
def unesc (c : UInt8) : Option UInt8 :=
  if c = 0x22 ∨ c = 0x5C ∨ c = 0x2F then some c
  else if c = 0x62 then some 8
  else if c = 0x66 then some 12
  else if c = 0x6E then some 10
  else if c = 0x72 then some 13
  else if c = 0x74 then some 9
  else none

/-- at `e`, whatever follows, the reader spends one unit of fuel and puts `c` in front of what it reads from there on -/
def Reads (c e : Bytes) : Prop :=
  ∀ (f : Nat) (t : Bytes), parseBody (f + 1) (e ++ t) = (parseBody f t).map fun p => (c ++ p.1, p.2)

theorem Reads.ite {c e e' : Bytes} {p : Prop} [Decidable p] (h : p → Reads c e) (h' : ¬ p → Reads c e') :
    Reads c (if p then e else e') := by
  by_cases hp : p
  · rw [if_pos hp]; exact h hp
  · rw [if_neg hp]; exact h' hp

theorem parseBody_quote (f : Nat) (r : Bytes) : parseBody (f + 1) (0x22 :: r) = some ([], r) := by
  simp [parseBody]

/-- a step that yields output consumes input (else the closing quote alone would read as `c`) -/
theorem Reads.ne_nil {c e : Bytes} (h : Reads c e) (hc : c ≠ []) : e ≠ [] := by
  rintro rfl
  have := h 1 [0x22]
  rw [List.nil_append, parseBody_quote, parseBody_quote] at this
  exact hc (by simpa using this.symm)

theorem reads_esc {b : UInt8} (c x : UInt8) (hc : c ≠ 0x75) (hx : unesc c = some x) (hb : b.toNat = x.toNat) :
    Reads [b] [0x5C, c] := by
  obtain rfl := UInt8.toNat.inj hb
  intro f t
  rw [parseBody.eq_def]
  simp only [List.cons_append, List.nil_append, show (0x5C : UInt8) ≠ 0x22 by decide, hc, if_false, if_true]
  unfold unesc at hx
  rw [hx]

theorem reads_u (q : Bytes) (rr : Nat) (hq : ∀ t, hex4 (q ++ t) = some (rr, t)) (hs : isSurrogate rr = false) :
    Reads (encodeRune rr) (0x5C :: 0x75 :: q) := by
  intro f t
  rw [List.cons_append, List.cons_append, parseBody.eq_def]
  simp only [show (0x5C : UInt8) ≠ 0x22 by decide, if_false, if_true, hq, hs, Bool.false_eq_true]

theorem reads_plain (b : UInt8) (h1 : ¬ b.toNat < 0x20) (h2 : b.toNat < 0x80) (hq : b ≠ 0x22) (hb : b ≠ 0x5C) :
    Reads [b] [b] := by
  intro f t
  rw [parseBody.eq_def]
  simp only [List.cons_append, List.nil_append, hq, hb, h1, h2, if_false, if_true]

theorem reads_rune (b0 : UInt8) (c : Bytes) (h80 : ¬ b0.toNat < 0x80)
    (hk : ∀ t, runeLen (b0 :: (c ++ t)) = c.length + 1) : Reads (b0 :: c) (b0 :: c) := by
  intro f t
  have a1 : b0 ≠ 0x22 := u8_ne_of_toNat (by simp; omega)
  have a2 : b0 ≠ 0x5C := u8_ne_of_toNat (by simp; omega)
  have a3 : ¬ b0.toNat < 0x20 := by omega
  rw [List.cons_append, parseBody.eq_def]
  simp only [a1, a2, a3, h80, hk, if_false]
  simp

/-- `escAscii` is an if-cascade (`split` on it is slow: its cost doubles with every arm); each arm is undone by the
    arm of `parseBody` named beside it -/
theorem reads_escAscii (b : UInt8) (hb : b.toNat < 0x80) : Reads [b] (escAscii b) := by
  unfold escAscii
  refine .ite ?_ fun h1 => .ite (reads_esc 0x62 8 (by decide) rfl) fun _ =>
    .ite (reads_esc 0x66 12 (by decide) rfl) fun _ => .ite (reads_esc 0x6E 10 (by decide) rfl) fun _ =>
    .ite (reads_esc 0x72 13 (by decide) rfl) fun _ => .ite (reads_esc 0x74 9 (by decide) rfl) fun _ =>
    .ite (fun _ => ?_) fun h7 => ?_
  · rintro (h | h)
    · obtain rfl : b = 0x22 := UInt8.toNat.inj h
      exact reads_esc 0x22 0x22 (by decide) rfl rfl
    · obtain rfl : b = 0x5C := UInt8.toNat.inj h
      exact reads_esc 0x5C 0x5C (by decide) rfl rfl
  · have := reads_u [0x30, 0x30, hexDigit (b.toNat / 16), hexDigit (b.toNat % 16)] b.toNat (fun t => by
      simp only [List.cons_append, List.nil_append, hex4, show hexVal 0x30 = some 0 by decide,
        hexVal_hexDigit (b.toNat / 16) (by omega), hexVal_hexDigit (b.toNat % 16) (by omega)]
      rw [show ((0 * 16 + 0) * 16 + b.toNat / 16) * 16 + b.toNat % 16 = b.toNat by omega])
      (by simp [isSurrogate]; omega)
    rwa [show encodeRune b.toNat = [b] by simp [encodeRune, hb]] at this
  · exact reads_plain b (by omega) hb (u8_ne_of_toNat (by simp; omega)) (u8_ne_of_toNat (by simp; omega))

theorem reads_esc202 : Reads [0xE2, 0x80, 0xA8] (esc202 0x38) ∧ Reads [0xE2, 0x80, 0xA9] (esc202 0x39) :=
  ⟨reads_u [0x32, 0x30, 0x32, 0x38] 0x2028 (fun _ => rfl) rfl, reads_u [0x32, 0x30, 0x32, 0x39] 0x2029 (fun _ => rfl) rfl⟩

theorem bytes3_of_beq {b0 b1 b2 : UInt8} (c0 c1 c2 : UInt8)
    (h : (b0.toNat == c0.toNat && b1.toNat == c1.toNat && b2.toNat == c2.toNat) = true) : [b0, b1, b2] = [c0, c1, c2] := by
  simp only [Bool.and_eq_true, beq_iff_eq, UInt8.toNat_inj] at h
  rw [h.1.1, h.1.2, h.2]

/-- the string round trip, one source chunk `c` (written as `e`) at a time -/
theorem parseBody_step {c e s : Bytes} (h : Reads c e) (hc : c ≠ []) (hr : renderBody (c ++ s) = e ++ renderBody s)
    (ih : ∀ (tail : Bytes) (f : Nat), (renderBody s).length < f →
      parseBody f (renderBody s ++ 0x22 :: tail) = some (s, tail))
    (tail : Bytes) (f : Nat) (hf : (renderBody (c ++ s)).length < f) :
    parseBody f (renderBody (c ++ s) ++ 0x22 :: tail) = some (c ++ s, tail) := by
  have := List.length_pos_iff.mpr (h.ne_nil hc)
  rw [hr, List.length_append] at hf
  obtain ⟨f, rfl⟩ : ∃ g, f = g + 1 := ⟨f - 1, by omega⟩
  rw [hr, List.append_assoc, h, ih tail f (by omega)]
  rfl

theorem parseBody_renderBody (s : Bytes) :
    validUTF8 s = true → ∀ (tail : Bytes) (f : Nat), (renderBody s).length < f →
      parseBody f (renderBody s ++ 0x22 :: tail) = some (s, tail) := by
  -- `fun_induction` puts the value of `validUTF8 s` on each path in place of the hypothesis.  Its cases are the arms of
  -- `validUTF8`: 1 the empty string, 2 an ASCII byte, 3 / 5 / 7 a well-formed sequence of two / three / four bytes,
  -- 4 / 6 / 8 / 9 the arms that answer `false`
  fun_induction validUTF8 s with
  | case1 =>
    intro _ tail f hf
    obtain ⟨f, rfl⟩ : ∃ g, f = g + 1 := ⟨f - 1, by omega⟩
    exact parseBody_quote f tail
  | case2 b0 rest n hn ih =>
    intro hv
    refine parseBody_step (c := [b0]) (reads_escAscii b0 hn) (by simp) ?_ (ih hv)
    rw [List.singleton_append, renderBody.eq_def]; dsimp only; rw [if_pos hn]
  | case3 b0 n hn h2 b1 r ih =>
    intro hv
    simp only [n] at hn h2
    rw [Bool.and_eq_true] at hv
    refine parseBody_step (c := [b0, b1]) (reads_rune b0 [b1] hn fun t => ?_) (by simp) ?_ (ih hv.2)
    · rw [runeLen.eq_def]; simp only [hn, h2, hv.1, List.cons_append, ↓reduceIte]; rfl
    · show renderBody (b0 :: b1 :: r) = _
      rw [renderBody.eq_def]; simp only [hn, h2, hv.1, ↓reduceIte]; rfl
  | case5 b0 n hn h2 h3 b1 b2 r lo hi ih =>
    intro hv
    simp only [n] at hn h2 h3
    simp only [lo, hi, n] at hv
    rw [Bool.and_eq_true] at hv
    obtain ⟨e, he, hr⟩ : ∃ e, Reads [b0, b1, b2] e ∧ renderBody (b0 :: b1 :: b2 :: r) = e ++ renderBody r := by
      rw [renderBody.eq_def]; simp only [hn, h2, h3, hv.1, Bool.false_eq_true, ↓reduceIte]
      split
      · next e8 => exact ⟨_, bytes3_of_beq 0xE2 0x80 0xA8 e8 ▸ reads_esc202.1, rfl⟩
      split
      · next e9 => exact ⟨_, bytes3_of_beq 0xE2 0x80 0xA9 e9 ▸ reads_esc202.2, rfl⟩
      refine ⟨_, reads_rune b0 [b1, b2] hn fun t => ?_, rfl⟩
      rw [runeLen.eq_def]; simp only [hn, h2, h3, hv.1, List.cons_append, Bool.false_eq_true, ↓reduceIte]; rfl
    exact parseBody_step he (by simp) hr (ih hv.2)
  | case7 b0 n hn h2 h3 h4 b1 b2 b3 r lo hi ih =>
    intro hv
    simp only [n] at hn h2 h3 h4
    simp only [lo, hi, n] at hv
    rw [Bool.and_eq_true] at hv
    refine parseBody_step (c := [b0, b1, b2, b3]) (reads_rune b0 [b1, b2, b3] hn fun t => ?_) (by simp) ?_ (ih hv.2)
    · rw [runeLen.eq_def]; simp only [hn, h2, h3, h4, hv.1, List.cons_append, Bool.false_eq_true, ↓reduceIte]; rfl
    · show renderBody (b0 :: b1 :: b2 :: b3 :: r) = _
      rw [renderBody.eq_def]; simp only [hn, h2, h3, h4, hv.1, Bool.false_eq_true, ↓reduceIte]; rfl
  | case4 | case6 | case8 | case9 => nofun

theorem natDigitsAux_fuel : ∀ (f f' n : Nat), n < f → n < f' → natDigitsAux f n = natDigitsAux f' n
  | 0, _, _, hf, _ => absurd hf (Nat.not_lt_zero _)
  | _ + 1, 0, _, _, hf' => absurd hf' (Nat.not_lt_zero _)
  | f + 1, f' + 1, n, hf, hf' => by
    rw [natDigitsAux, natDigitsAux]
    by_cases h : n < 10
    · rw [if_pos h, if_pos h]
    · rw [if_neg h, if_neg h, natDigitsAux_fuel f f' (n / 10) (by omega) (by omega)]

theorem natDigits_small (n : Nat) (h : n < 10) : natDigits n = [UInt8.ofNat (48 + n)] := by
  rw [natDigits, natDigitsAux, if_pos h]

theorem natDigits_big (n : Nat) (h : ¬ n < 10) :
    natDigits n = natDigits (n / 10) ++ [UInt8.ofNat (48 + n % 10)] := by
  rw [natDigits, natDigitsAux, if_neg h, natDigitsAux_fuel n (n / 10 + 1) (n / 10) (by omega) (by omega)]
  rfl

/-- induction along `natDigits`: what holds of the one-digit numerals and passes from the numeral of `n / 10` to that
    of `n` holds of every numeral -/
theorem natDigits_induct {P : Nat → Bytes → Prop} (small : ∀ n, n < 10 → P n [UInt8.ofNat (48 + n)])
    (big : ∀ n ds, ¬ n < 10 → P (n / 10) ds → P n (ds ++ [UInt8.ofNat (48 + n % 10)])) (n : Nat) :
    P n (natDigits n) := by
  induction n using Nat.strongRecOn with
  | _ n ih =>
    by_cases h : n < 10
    · rw [natDigits_small n h]; exact small n h
    · rw [natDigits_big n h]; exact big n _ h (ih (n / 10) (by omega))

theorem toNat_digit (k : Nat) (h : k < 10) : (UInt8.ofNat (48 + k)).toNat = 48 + k :=
  UInt8.toNat_ofNat_of_lt' (by simp only [UInt8.size]; omega)

theorem isDigit_ofNat (k : Nat) (h : k < 10) : isDigit (UInt8.ofNat (48 + k)) = true := by
  simp only [isDigit, toNat_digit k h, Bool.and_eq_true, decide_eq_true_eq]
  exact ⟨by omega, by omega⟩

theorem natDigits_all (n : Nat) : ∀ d ∈ natDigits n, isDigit d = true :=
  natDigits_induct (P := fun _ ds => ∀ d ∈ ds, isDigit d = true)
    (fun n h => List.forall_mem_singleton.mpr (isDigit_ofNat n h))
    (fun n _ _ ih => List.forall_mem_append.mpr
      ⟨ih, List.forall_mem_singleton.mpr (isDigit_ofNat _ (Nat.mod_lt n (by decide)))⟩) n

theorem digitsVal_append (ds : Bytes) (d : UInt8) : digitsVal (ds ++ [d]) = digitsVal ds * 10 + (d.toNat - 48) := by
  simp [digitsVal, List.foldl_append]

theorem digitsVal_natDigits (n : Nat) : digitsVal (natDigits n) = n :=
  natDigits_induct (P := fun n ds => digitsVal ds = n)
    (fun n h => by show 0 * 10 + ((UInt8.ofNat (48 + n)).toNat - 48) = n; rw [toNat_digit n h]; omega)
    (fun n ds _ ih => by rw [digitsVal_append, ih, toNat_digit _ (Nat.mod_lt n (by decide))]; omega) n

theorem natDigits_head (n : Nat) :
    ∃ d ds, natDigits n = d :: ds ∧ isDigit d = true ∧ (d = 48 → n = 0 ∧ ds = []) := by
  refine natDigits_induct (P := fun n l => ∃ d ds, l = d :: ds ∧ isDigit d = true ∧ (d = 48 → n = 0 ∧ ds = []))
    (fun n h => ⟨_, [], rfl, isDigit_ofNat n h, fun e => ⟨?_, rfl⟩⟩) ?_ n
  · have := congrArg UInt8.toNat e
    rw [toNat_digit n h] at this
    exact Nat.add_left_cancel (this.trans (Nat.add_zero 48).symm)
  · rintro n _ h ⟨d, ds, rfl, hd, hz⟩
    exact ⟨d, _, rfl, hd, fun e => by have := (hz e).1; omega⟩

/-- what may follow a number: nothing, or a byte that cannot continue it -/
def NumEnd : Bytes → Prop
  | [] => True
  | b :: _ => isDigit b = false ∧ b ≠ 0x2E ∧ b ≠ 0x65 ∧ b ≠ 0x45

theorem takeDigits_append (ds rest : Bytes) (hd : ∀ d ∈ ds, isDigit d = true) (hr : NumEnd rest) :
    takeDigits (ds ++ rest) = (ds, rest) := by
  induction ds with
  | nil =>
    cases rest with
    | nil => rfl
    | cons b r => simp [takeDigits, hr.1]
  | cons d ds ih =>
    rw [List.forall_mem_cons] at hd
    simp [takeDigits, hd.1, ih hd.2]

theorem intPart_natDigits (n : Nat) (rest : Bytes) (hr : NumEnd rest) :
    intPart (natDigits n ++ rest) = some (natDigits n, rest) := by
  obtain ⟨d, ds, e, hd, hz⟩ := natDigits_head n
  have hall := natDigits_all n
  rw [e] at hall ⊢
  simp only [List.cons_append, intPart, hd, Bool.not_true, Bool.false_eq_true, if_false]
  by_cases h0 : d = 48
  · rw [if_pos h0, (hz h0).2, List.nil_append]
  · rw [if_neg h0, takeDigits_append ds rest (List.forall_mem_cons.1 hall).2 hr]

theorem fracPart_end (rest : Bytes) (hr : NumEnd rest) : fracPart rest = some ([], rest) := by
  cases rest with
  | nil => rfl
  | cons b r => simp [fracPart, hr.2.1]

theorem expPart_end (rest : Bytes) (hr : NumEnd rest) : expPart rest = some ([], rest) := by
  cases rest with
  | nil => rfl
  | cons b r => simp [expPart, hr.2.2.1, hr.2.2.2]

theorem parseNumberAbs_natDigits (neg : Bool) (n : Nat) (rest : Bytes) (hr : NumEnd rest) :
    parseNumberAbs neg (natDigits n ++ rest) =
      some (.int (if neg then -(Int.ofNat n) else Int.ofNat n), rest) := by
  simp [parseNumberAbs, intPart_natDigits n rest hr, fracPart_end rest hr, expPart_end rest hr, digitsVal_natDigits]

theorem ne_of_isDigit {d c : UInt8} (hd : isDigit d = true) (hc : isDigit c = false) : d ≠ c := by
  rintro rfl; rw [hd] at hc; cases hc

theorem numEnd_of_isWs {b : UInt8} (hb : isWs b = true) (r : Bytes) : NumEnd (b :: r) := by
  simp only [isWs, Bool.or_eq_true, decide_eq_true_eq] at hb
  rcases hb with ((rfl | rfl) | rfl) | rfl <;> exact ⟨by decide, by decide, by decide, by decide⟩

theorem isWs_of_isDigit {d : UInt8} (hd : isDigit d = true) : isWs d = false :=
  Bool.eq_false_iff.mpr fun h => ne_of_isDigit hd (numEnd_of_isWs h []).1 rfl

theorem renderInt_head (i : Int) : ∃ b r, renderInt i = b :: r ∧ (b = 0x2D ∨ isDigit b = true) := by
  unfold renderInt
  split
  · exact ⟨_, _, rfl, .inl rfl⟩
  · obtain ⟨d, ds, e, hd, _⟩ := natDigits_head i.natAbs
    exact ⟨d, ds, e, .inr hd⟩

theorem parseNumber_renderInt (i : Int) (rest : Bytes) (hr : NumEnd rest) :
    parseNumber (renderInt i ++ rest) = some (.int i, rest) := by
  unfold renderInt
  by_cases h : i < 0
  · rw [if_pos h, List.cons_append, parseNumber, if_pos rfl, parseNumberAbs_natDigits true _ rest hr, if_pos rfl,
      Int.ofNat_eq_natCast, show -(i.natAbs : Int) = i by omega]
  · obtain ⟨d, ds, e, hd, _⟩ := natDigits_head i.natAbs
    rw [if_neg h, e, List.cons_append, parseNumber, if_neg (ne_of_isDigit hd (by decide)), ← List.cons_append, ← e,
      parseNumberAbs_natDigits false _ rest hr, if_neg Bool.false_ne_true,
      Int.ofNat_eq_natCast, show (i.natAbs : Int) = i by omega]

mutual
/-- a tree the writer is specified for: integer numbers only, every string and member name valid UTF-8 -/
def WF : Json → Bool
  | .null => true
  | .bool _ => true
  | .int _ => true
  | .numOther _ => false
  | .str s => validUTF8 s
  | .arr xs => WFList xs
  | .obj ms => WFMembers ms
def WFList : List Json → Bool
  | [] => true
  | x :: xs => WF x && WFList xs
def WFMembers : List (Bytes × Json) → Bool
  | [] => true
  | (k, v) :: ms => validUTF8 k && WF v && WFMembers ms
end

theorem numEnd_comma (r : Bytes) : NumEnd (0x2C :: r) := ⟨by decide, by decide, by decide, by decide⟩
theorem numEnd_rbracket (r : Bytes) : NumEnd (0x5D :: r) := ⟨by decide, by decide, by decide, by decide⟩
theorem numEnd_rbrace (r : Bytes) : NumEnd (0x7D :: r) := ⟨by decide, by decide, by decide, by decide⟩

theorem renderTail_cons (y : Json) (ys : List Json) : renderTail (y :: ys) = 0x2C :: renderList (y :: ys) := by
  simp [renderTail, renderList]

theorem renderMTail_cons (m : Bytes × Json) (ms : List (Bytes × Json)) :
    renderMTail (m :: ms) = 0x2C :: renderMembers (m :: ms) := by
  simp [renderMTail, renderMembers]

/-- starts with a byte that is neither whitespace nor a closing bracket -/
def Starts (bs : Bytes) : Prop := ∃ b r, bs = b :: r ∧ isWs b = false ∧ b ≠ 0x5D ∧ b ≠ 0x7D

theorem render_starts (j : Json) (hw : WF j = true) (rest : Bytes) : Starts (render j ++ rest) := by
  cases j with
  | int i =>
    obtain ⟨b, r, e, h⟩ := renderInt_head i
    rw [render, e]
    rcases h with rfl | h
    · exact ⟨_, _, rfl, by decide, by decide, by decide⟩
    · exact ⟨_, _, rfl, isWs_of_isDigit h, ne_of_isDigit h (by decide), ne_of_isDigit h (by decide)⟩
  | numOther r => simp [WF] at hw
  | bool b => cases b <;> exact ⟨_, _, rfl, by decide, by decide, by decide⟩
  | _ => exact ⟨_, _, rfl, by decide, by decide, by decide⟩

theorem renderList_starts : ∀ (l : List Json), l ≠ [] → WFList l = true → ∀ rest, Starts (renderList l ++ rest)
  | x :: xs, _, hw, rest => by
    rw [WFList, Bool.and_eq_true] at hw
    rw [renderList, List.append_assoc]
    exact render_starts x hw.1 _

theorem renderMembers_starts (m : Bytes × Json) (ms : List (Bytes × Json)) (rest : Bytes) :
    Starts (renderMembers (m :: ms) ++ rest) := by
  rw [renderMembers]; exact ⟨_, _, rfl, by decide, by decide, by decide⟩

/-! the reader on text without whitespace: one lemma per production -/

theorem skipWs_nonws (b : UInt8) (r : Bytes) (h : isWs b = false) : skipWs (b :: r) = b :: r := by
  simp [skipWs, h]

theorem skipWs_starts (bs : Bytes) (h : Starts bs) : skipWs bs = bs := by
  obtain ⟨b, r, e, hw, _, _⟩ := h
  rw [e, skipWs_nonws b r hw]

theorem parseValue_number (f : Nat) (b : UInt8) (r : Bytes) (h : b = 0x2D ∨ isDigit b = true) :
    parseValue (f + 1) (b :: r) = parseNumber (b :: r) := by
  rcases h with rfl | h
  · rfl
  · rw [parseValue]
    simp only [ne_of_isDigit h (c := 0x22) (by decide), ne_of_isDigit h (c := 0x5B) (by decide),
      ne_of_isDigit h (c := 0x7B) (by decide), ne_of_isDigit h (c := 0x74) (by decide),
      ne_of_isDigit h (c := 0x66) (by decide), ne_of_isDigit h (c := 0x6E) (by decide), if_false]

theorem parseValue_arr (f : Nat) (bs : Bytes) (h : Starts bs) :
    parseValue (f + 1) (0x5B :: bs) = (parseElems f bs).map fun p => (.arr p.1, p.2) := by
  rw [parseValue, skipWs_starts bs h]
  obtain ⟨b, r, rfl, _, hb, _⟩ := h
  simp only [show (0x5B : UInt8) ≠ 0x22 by decide, hb, if_false, if_true]

theorem parseValue_obj (f : Nat) (bs : Bytes) (h : Starts bs) :
    parseValue (f + 1) (0x7B :: bs) = (parseMembers f bs).map fun p => (.obj p.1, p.2) := by
  rw [parseValue, skipWs_starts bs h]
  obtain ⟨b, r, rfl, _, _, hb⟩ := h
  simp only [show (0x7B : UInt8) ≠ 0x22 by decide, show (0x7B : UInt8) ≠ 0x5B by decide, hb, if_false, if_true]

theorem parseElems_last {f : Nat} {bs rest : Bytes} {x : Json} (h : parseValue f bs = some (x, 0x5D :: rest)) :
    parseElems (f + 1) bs = some ([x], rest) := by
  rw [parseElems, h]; rfl

theorem parseElems_more {f : Nat} {bs bs' : Bytes} {x : Json} (h : parseValue f bs = some (x, 0x2C :: bs'))
    (hs : Starts bs') : parseElems (f + 1) bs = (parseElems f bs').map fun p => (x :: p.1, p.2) := by
  rw [parseElems, h]
  simp only [skipWs_nonws 0x2C _ (by decide), skipWs_starts _ hs, if_true]

theorem parseMembers_last {f : Nat} {k r1 bs rest : Bytes} {v : Json}
    (hk : parseBody (r1.length + 1) r1 = some (k, 0x3A :: bs)) (hs : Starts bs)
    (h : parseValue f bs = some (v, 0x7D :: rest)) : parseMembers (f + 1) (0x22 :: r1) = some ([(k, v)], rest) := by
  rw [parseMembers]
  simp only [if_true, hk, skipWs_nonws 0x3A _ (by decide), skipWs_starts _ hs, h]
  rfl

theorem parseMembers_more {f : Nat} {k r1 bs bs' : Bytes} {v : Json}
    (hk : parseBody (r1.length + 1) r1 = some (k, 0x3A :: bs)) (hs : Starts bs)
    (h : parseValue f bs = some (v, 0x2C :: bs')) (hs' : Starts bs') :
    parseMembers (f + 1) (0x22 :: r1) = (parseMembers f bs').map fun p => ((k, v) :: p.1, p.2) := by
  rw [parseMembers]
  simp only [if_true, hk, skipWs_nonws 0x3A _ (by decide), skipWs_starts _ hs, h, skipWs_nonws 0x2C _ (by decide),
    skipWs_starts _ hs']

mutual
theorem parse_render : ∀ (j : Json) (rest : Bytes) (f : Nat), WF j = true → NumEnd rest →
    (render j).length < f → parseValue f (render j ++ rest) = some (j, rest)
  | _, _, 0, _, _, hf => absurd hf (Nat.not_lt_zero _)
  | .null, _, _ + 1, _, _, _ => rfl
  | .bool true, _, _ + 1, _, _, _ => rfl
  | .bool false, _, _ + 1, _, _, _ => rfl
  | .int i, rest, f + 1, _, hr, _ => by
    obtain ⟨b, r, e, h⟩ := renderInt_head i
    rw [← parseNumber_renderInt i rest hr, render, e]
    exact parseValue_number f b _ h
  | .numOther _, _, _ + 1, hw, _, _ => by simp [WF] at hw
  | .str s, rest, f + 1, hw, _, _ => by
    rw [render, List.cons_append, List.append_assoc, List.singleton_append, parseValue, if_pos rfl,
      parseBody_renderBody s hw rest _ (by simp; omega)]
    rfl
  | .arr [], _, _ + 1, _, _, _ => rfl
  | .arr (x :: xs), rest, f + 1, hw, _, hf => by
    rw [render, List.cons_append, List.append_assoc, List.singleton_append,
      parseValue_arr f _ (renderList_starts _ (by simp) hw _),
      parseElems_render (x :: xs) rest f (by simp) hw (by simp [render] at hf; omega)]
    rfl
  | .obj [], _, _ + 1, _, _, _ => rfl
  | .obj (m :: ms), rest, f + 1, hw, _, hf => by
    rw [render, List.cons_append, List.append_assoc, List.singleton_append,
      parseValue_obj f _ (renderMembers_starts m ms _),
      parseMembers_render (m :: ms) rest f (by simp) hw (by simp [render] at hf; omega)]
    rfl
theorem parseElems_render : ∀ (l : List Json) (rest : Bytes) (f : Nat), l ≠ [] → WFList l = true →
    (renderList l).length + 1 < f → parseElems f (renderList l ++ 0x5D :: rest) = some (l, rest)
  | [], _, _, hne, _, _ => absurd rfl hne
  | _ :: _, _, 0, _, _, hf => absurd hf (Nat.not_lt_zero _)
  | [x], rest, f + 1, _, hw, hf => by
    rw [WFList, WFList, Bool.and_true] at hw
    rw [renderList, renderTail, List.append_nil] at hf ⊢
    exact parseElems_last (parse_render x _ f hw (numEnd_rbracket rest) (by omega))
  | x :: y :: ys, rest, f + 1, _, hw, hf => by
    rw [WFList, Bool.and_eq_true] at hw
    rw [renderList, renderTail_cons, List.length_append, List.length_cons] at hf
    rw [renderList, renderTail_cons, List.append_assoc, List.cons_append,
      parseElems_more (parse_render x _ f hw.1 (numEnd_comma _) (by omega)) (renderList_starts _ (by simp) hw.2 _),
      parseElems_render (y :: ys) rest f (by simp) hw.2 (by omega)]
    rfl
theorem parseMembers_render : ∀ (l : List (Bytes × Json)) (rest : Bytes) (f : Nat), l ≠ [] → WFMembers l = true →
    (renderMembers l).length + 1 < f → parseMembers f (renderMembers l ++ 0x7D :: rest) = some (l, rest)
  | [], _, _, hne, _, _ => absurd rfl hne
  | _ :: _, _, 0, _, _, hf => absurd hf (Nat.not_lt_zero _)
  | [(k, v)], rest, f + 1, _, hw, hf => by
    simp only [WFMembers, Bool.and_eq_true, Bool.and_true] at hw
    simp only [renderMembers, renderMTail, List.append_nil, List.cons_append, List.append_assoc, List.length_cons,
      List.length_append] at hf ⊢
    exact parseMembers_last (parseBody_renderBody k hw.1 _ _ (by simp; omega)) (render_starts v hw.2 _)
      (parse_render v _ f hw.2 (numEnd_rbrace rest) (by omega))
  | (k, v) :: m :: ms, rest, f + 1, _, hw, hf => by
    rw [WFMembers, Bool.and_eq_true, Bool.and_eq_true] at hw
    rw [renderMembers, renderMTail_cons] at hf ⊢
    simp only [List.cons_append, List.append_assoc, List.length_cons, List.length_append] at hf ⊢
    rw [parseMembers_more (parseBody_renderBody k hw.1.1 _ _ (by simp; omega)) (render_starts v hw.1.2 _)
        (parse_render v _ f hw.1.2 (numEnd_comma _) (by omega)) (renderMembers_starts m ms _),
      parseMembers_render (m :: ms) rest f (by simp) hw.2 (by omega)]
    rfl
end

def AllWs (bs : Bytes) : Prop := ∀ b ∈ bs, isWs b = true

theorem skipWs_allWs_append (ws rest : Bytes) (h : AllWs ws) : skipWs (ws ++ rest) = skipWs rest := by
  induction ws with
  | nil => rfl
  | cons b r ih =>
    rw [AllWs, List.forall_mem_cons] at h
    simp only [List.cons_append, skipWs, h.1, if_true]
    exact ih h.2

theorem numEnd_allWs : ∀ (ws : Bytes), AllWs ws → NumEnd ws
  | [], _ => trivial
  | b :: r, h => numEnd_of_isWs (h b List.mem_cons_self) r

/-- **whitespace around a document is immaterial**: any run of space / tab / CR / LF before and after the rendered
    document reads back to the same tree -/
theorem parseDoc_ws_render_ws (j : Json) (hw : WF j = true) (pre post : Bytes) (h1 : AllWs pre) (h2 : AllWs post) :
    parseDoc (pre ++ (render j ++ post)) = some j := by
  have h3 : skipWs post = [] := by simpa [skipWs] using skipWs_allWs_append post [] h2
  unfold parseDoc
  rw [skipWs_allWs_append pre _ h1, skipWs_starts _ (render_starts j hw post),
    parse_render j post _ hw (numEnd_allWs post h2) (by simp; omega)]
  simp [h3]

/-- **reading back a rendered document**: for every tree the writer is specified for, `parseDoc ∘ render` is the identity -/
theorem parseDoc_render (j : Json) (hw : WF j = true) : parseDoc (render j) = some j := by
  simpa using parseDoc_ws_render_ws j hw [] [] nofun nofun

end Psa.Model.JText
