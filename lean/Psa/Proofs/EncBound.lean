import Psa.Proofs.EncTotal
import Psa.Cbor.Consumes
namespace Psa.Proofs.Enc
open Psa Psa.Model.Enc

/-! ### resources: what the map reader keeps is bounded by the bytes it was given (C06) -/

/-- total size of the raw values held -/
def OMap.rawBytes (m : OMap) : Nat := (m.fields.map (·.2.length)).sum

theorem rawFirst_consumes {bs raw : Bytes} {t : Cbor} {rest : Bytes} (h : rawFirst bs = some (raw, t, rest)) :
    bs = raw ++ rest ∧ raw ≠ [] := by
  unfold rawFirst at h
  cases hd : Cbor.decodeFirst {} bs with
  | none => simp [hd] at h
  | some p =>
    obtain ⟨t', r'⟩ := p
    simp only [hd, Option.some.injEq, Prod.mk.injEq] at h
    obtain ⟨h1, _, rfl⟩ := h
    obtain ⟨pre, hne, rfl⟩ := Cbor.decodeFirst_consumes {} bs t' r' hd
    have : (pre ++ r').take ((pre ++ r').length - r'.length) = pre := by simp
    rw [this] at h1; subst h1
    exact ⟨rfl, hne⟩

/-- one key/value step: exactly one entry more; what is kept is paid for by consumed input -/
theorem ukv_step (rest r : Bytes) (m m' : OMap) (h : unmarshalKeyValue rest m = .ok (r, m')) :
    m'.keys.length = m.keys.length + 1 ∧ m'.fields.length = m.fields.length + 1 ∧
    OMap.rawBytes m' + r.length + 1 ≤ OMap.rawBytes m + rest.length ∧ r.length + 2 ≤ rest.length := by
  rcases ukv_cases rest m with ⟨e, he⟩ | ⟨kraw, kt, r1, raw, vt, r2, k, hk, hv, he⟩ <;> rw [he] at h
  · cases h
  obtain ⟨m1, ha, e⟩ := (bind_ok_iff _ _ _).1 h
  cases e
  obtain ⟨rfl, nk⟩ := rawFirst_consumes hk
  obtain ⟨rfl, nv⟩ := rawFirst_consumes hv
  have lk := List.length_pos_iff.mpr nk
  have lv := List.length_pos_iff.mpr nv
  unfold OMap.add at ha
  split at ha
  · cases ha
  · cases ha
    simp [OMap.rawBytes]
    omega

theorem readEntries_bound : ∀ (n : Nat) (rest r : Bytes) (m m' : OMap), readEntries n rest m = .ok (r, m') →
    m'.keys.length = m.keys.length + n ∧ OMap.rawBytes m' + r.length + n ≤ OMap.rawBytes m + rest.length ∧
    r.length + 2 * n ≤ rest.length
  | 0, rest, r, m, m', h => by simp [readEntries] at h; obtain ⟨rfl, rfl⟩ := h; simp
  | n + 1, rest, r, m, m', h => by
    obtain ⟨⟨r1, m1⟩, hu, h⟩ := (bind_ok_iff _ _ _).1 h
    have s := ukv_step rest r1 m m1 hu
    have ih := readEntries_bound n r1 r m1 m' h
    omega

theorem readUntilBreak_bound : ∀ (fuel : Nat) (rest : Bytes) (m m' : OMap), readUntilBreak fuel rest m = .ok m' →
    2 * (m'.keys.length - m.keys.length) ≤ rest.length ∧ m.keys.length ≤ m'.keys.length ∧
    OMap.rawBytes m' ≤ OMap.rawBytes m + rest.length
  | 0, _, _, _, h => by simp [readUntilBreak] at h
  | fuel + 1, rest, m, m', h => by
    simp only [readUntilBreak] at h
    split at h
    · cases h
    · split at h
      · cases h; simp
      · rename_i b tl _
        obtain ⟨⟨r1, m1⟩, hu, h⟩ := (bind_ok_iff _ _ _).1 h
        have s := ukv_step (b :: tl) r1 m m1 hu
        have ih := readUntilBreak_bound fuel r1 m1 m' h
        omega

/-- the fuel the model passes to the indefinite-length loop is never what stops it: any larger
    amount gives the same answer (the loop terminates because every round consumes input) -/
theorem readUntilBreak_fuel : ∀ (f1 f2 : Nat) (rest : Bytes) (m : OMap), rest.length < f1 → rest.length < f2 →
    readUntilBreak f1 rest m = readUntilBreak f2 rest m
  | 0, _, _, _, h, _ => by omega
  | _, 0, _, _, _, h => by omega
  | f1 + 1, f2 + 1, rest, m, h1, h2 => by
    simp only [readUntilBreak]
    split
    · rfl
    · split
      · rfl
      · rename_i b tl _
        refine bind_congr fun p hu => ?_
        have s := ukv_step (b :: tl) p.1 m p.2 hu
        exact readUntilBreak_fuel f1 f2 p.1 p.2 (by omega) (by omega)

theorem pai_len (ai : Nat) (data r : Bytes) (n : Nat) (h : processAdditionalInfo ai data = .ok (n, r)) :
    r.length ≤ data.length := by
  rcases pai_cases ai data with e | ⟨n', k, e⟩ <;> rw [e] at h <;> cases h
  simp

/-- **C06, memory**: whatever `FromCBOR` returns holds at most one entry per two input bytes and
    no more raw bytes than it was given — a declared length buys nothing -/
theorem fromCBOR_bound (data : Bytes) (m : OMap) (h : fromCBOR data = .ok m) :
    2 * m.keys.length ≤ data.length ∧ OMap.rawBytes m ≤ data.length := by
  rcases fromCBOR_cases data with e | ⟨n, rest, hl, e⟩ | ⟨rest, hl, e⟩ <;> rw [e] at h
  · cases h
  · obtain ⟨⟨r, m1⟩, hr, h⟩ := (bind_ok_iff _ _ _).1 h
    cases h
    have := readEntries_bound _ _ _ _ _ hr
    simp [OMap.empty, OMap.rawBytes] at this ⊢
    omega
  · have := readUntilBreak_bound _ _ _ _ h
    simp [OMap.empty, OMap.rawBytes] at this ⊢
    omega

end Psa.Proofs.Enc
