/- `populate ∘ serialize` and the serialiser's output as one plain object, JSON, tree level (C15). -/
import Psa.Proofs.EncJsonShape
namespace Psa.Proofs.EncJ
open Psa Psa.Model Psa.Model.EncJ
open Psa.Model.Enc (FVal FTy SVal)

theorem lastWins_nodup : ∀ ms : List (Bytes × Json), (ms.map (·.1)).Nodup → lastWins ms = ms
  | [], _ => rfl
  | (k, v) :: rest, h => by
    simp only [List.map_cons, List.nodup_cons] at h
    have hn : rest.any (fun x => x.1 == k) = false := by
      rw [List.any_eq_false]
      intro x hx hk
      exact h.1 (List.mem_map.mpr ⟨x, hx, by simpa using hk⟩)
    simp only [lastWins, hn, Bool.false_eq_true, if_false, lastWins_nodup rest h.2]

theorem get_mem (m : JMap) (hi : JInv m) : ∀ k ∈ m.keys, ∃ v, m.get k = some v ∧ (k, v) ∈ m.fields := by
  intro k hk
  rw [hi.agree] at hk
  obtain ⟨p, hp, rfl⟩ := List.mem_map.mp hk
  exact ⟨p.2, jsonMap.get_of_mem (hi.agree ▸ hi.nodup) hp, hp⟩

theorem toJSON_fields (m : JMap) (hi : JInv m) : m.toJSON = .obj m.fields := by
  unfold JMap.toJSON
  congr 1
  rw [hi.agree, List.map_map]
  refine (List.map_congr_left fun p hp => ?_).trans (List.map_id _)
  simp [jsonMap.get_of_mem (hi.agree ▸ hi.nodup) hp]

theorem fromJSON_toJSON (m : JMap) (hi : JInv m) : fromJSON m.toJSON = .ok m := by
  rw [toJSON_fields m hi]
  simp only [fromJSON, lastWins_nodup m.fields (hi.agree ▸ hi.nodup), ← hi.agree]

/-- the fields that are written -/
def present : List FieldSpecJ → List (Option FVal) → List (Bytes × Json)
  | f :: fs, v :: vs => if f.omitempty && v.isNone then present fs vs else (f.name, jFVal v) :: present fs vs
  | _, _ => []

theorem entries_present : ∀ (fs : List FieldSpecJ) (vs : List (Option FVal)),
    entries FieldSpecJ.name FieldSpecJ.omitempty jFVal fs vs = present fs vs
  | [], _ => rfl
  | _ :: _, [] => rfl
  | f :: fs, v :: vs => by rw [entries, entries_present fs vs, present]

/-- the map a struct is serialised into: `Fields` holds the present fields, `Keys` their names -/
theorem serializeInto_empty (sh : ShapeJ) (v : SVal) (hf : Fits sh v) (hn : ((specs sh).map (·.name)).Nodup) :
    ∃ m, serializeInto sh v JMap.empty = .ok m ∧ JInv m ∧
      m.fields = entries FieldSpecJ.name FieldSpecJ.omitempty jFVal (specs sh) (flat v) :=
  ⟨_, by rw [serializeInto_flat sh v _ hf]
         exact json.addFields_eq ((entries_keys_sublist _ _).nodup hn),
    ⟨rfl, (entries_keys_sublist _ _).nodup hn⟩, rfl⟩

/-- **C15, JSON round trip** (tree level): for every struct shape with pairwise distinct member names and every fitting
    value — any subset of optional fields, none included — populating from the serialiser's object gives the value back -/
theorem populate_serialize (sh : ShapeJ) (v : SVal) (hf : Fits sh v) (hn : ((specs sh).map (·.name)).Nodup) :
    ∃ j, serialize sh v = .ok j ∧ populate sh j = .ok v := by
  have ht := fits_typed sh v hf
  obtain ⟨m, hser, hi, hfld⟩ := serializeInto_empty sh v hf hn
  refine ⟨m.toJSON, by simp [serialize, hser, Outcome.map], ?_⟩
  obtain ⟨m', e1⟩ := json.popFields_ok (typedAll_length ht) hn (typedAll_dec ht) (json.get_entries hn hfld)
  simp [populate, fromJSON_toJSON m hi, Dec.bind, populateFrom_flat sh v m m' hf e1, Dec.map]

/-- **C15, JSON: one object, union of outer and embedded fields, omitempty honoured, declaration order** — for a struct
    without embedding this is the member list of the plain marshaller -/
theorem serialize_is_plain_object (sh : ShapeJ) (v : SVal) (j : Json) (hf : Fits sh v)
    (hn : ((specs sh).map (·.name)).Nodup) (h : serialize sh v = .ok j) :
    j = .obj (present (specs sh) (flat v)) := by
  obtain ⟨m, hser, hi, hfld⟩ := serializeInto_empty sh v hf hn
  simp only [serialize, hser, Outcome.map, Outcome.ok.injEq] at h
  rw [← h, toJSON_fields m hi, hfld, entries_present]

/-- a duplicated member in JSON *input* is not an error: the last value wins (unlike CBOR input) -/
theorem json_duplicate_last_wins (k : Bytes) (a b : Json) :
    (fromJSON (.obj [(k, a), (k, b)])).bind (fun m => .ok (m.get k)) = .ok (some b) := by
  simp [fromJSON, lastWins, Dec.bind, JMap.get]

end Psa.Proofs.EncJ
