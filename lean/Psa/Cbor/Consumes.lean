/- The decoder returns a strict suffix of its input (termination of every loop built on it). -/
import Psa.Cbor.Head
import Psa.Cbor.Item
namespace Psa
namespace Cbor

/-- `rest` is what remains of `bs` after a non-empty prefix -/
def StrictSuffix (bs rest : Bytes) : Prop := ∃ pre, pre ≠ [] ∧ bs = pre ++ rest

def Suffix (bs rest : Bytes) : Prop := ∃ pre, bs = pre ++ rest

theorem StrictSuffix.trans_suffix {a b c : Bytes} (h1 : StrictSuffix a b) (h2 : Suffix b c) : StrictSuffix a c := by
  obtain ⟨p1, hne, rfl⟩ := h1
  obtain ⟨p2, rfl⟩ := h2
  exact ⟨p1 ++ p2, by simp [hne], by simp⟩

theorem Suffix.trans {a b c : Bytes} (h1 : Suffix a b) (h2 : Suffix b c) : Suffix a c := by
  obtain ⟨p1, rfl⟩ := h1
  obtain ⟨p2, rfl⟩ := h2
  exact ⟨p1 ++ p2, by simp⟩

theorem StrictSuffix.suffix {a b : Bytes} (h : StrictSuffix a b) : Suffix a b := by
  obtain ⟨p, _, rfl⟩ := h; exact ⟨p, rfl⟩

theorem suffix_drop (l : Bytes) (n : Nat) : Suffix l (l.drop n) := ⟨l.take n, (List.take_append_drop n l).symm⟩

theorem Suffix.length_le {a b : Bytes} (h : Suffix a b) : b.length ≤ a.length := by
  obtain ⟨p, rfl⟩ := h; simp

theorem StrictSuffix.length_lt {a b : Bytes} (h : StrictSuffix a b) : b.length < a.length := by
  obtain ⟨p, hne, rfl⟩ := h
  rw [List.length_append]
  exact Nat.lt_add_of_pos_left (List.length_pos_iff.mpr hne)

/-- the head is the first byte and, after it, 0, 1, 2, 4 or 8 bytes of argument -/
theorem readHead_strict {bs : Bytes} {mt ai val : Nat} {rest : Bytes} (h : readHead bs = some (mt, ai, val, rest)) :
    StrictSuffix bs rest := by
  cases bs with
  | nil => cases h
  | cons b tl =>
    suffices Suffix tl rest by
      obtain ⟨p, rfl⟩ := this; exact ⟨b :: p, by simp, rfl⟩
    rw [readHead_cons] at h
    split at h
    · cases h; exact ⟨[], rfl⟩
    split at h
    · cases h; exact ⟨[], rfl⟩
    split at h
    · cases h
    · cases h; exact suffix_drop tl _

theorem decSeq_suffix {f : Bytes → Option (Cbor × Bytes)} (hf : ∀ bs t r, f bs = some (t, r) → StrictSuffix bs r) :
    ∀ (n : Nat) (bs : Bytes) (xs : List Cbor) (r : Bytes), decSeq f n bs = some (xs, r) → Suffix bs r
  | 0, bs, xs, r, h => by cases h; exact ⟨[], rfl⟩
  | n + 1, bs, xs, r, h => by
    rw [decSeq] at h
    split at h
    · cases h
    · rename_i x r1 hx
      obtain ⟨⟨ys, r2⟩, hs, e⟩ := Option.map_eq_some_iff.mp h
      cases e
      exact (hf _ _ _ hx).suffix.trans (decSeq_suffix hf n _ _ _ hs)

theorem decSeq2_suffix {f : Bytes → Option (Cbor × Bytes)} (hf : ∀ bs t r, f bs = some (t, r) → StrictSuffix bs r)
    (n : Nat) (bs : Bytes) (xs : List (Cbor × Cbor)) (r : Bytes) (h : decSeq2 f n bs = some (xs, r)) : Suffix bs r := by
  rw [decSeq2_eq] at h
  obtain ⟨_, hs, e⟩ := Option.map_eq_some_iff.mp h
  cases e; exact decSeq_suffix hf _ _ _ _ hs

/-- whatever the major type, what is left is `r0`, `r0.drop val`, or what nested items leave of `r0` -/
theorem item_suffix {lim : Limits} {rec : Nat → Bytes → Option (Cbor × Bytes)}
    (hrec : ∀ d bs t r, rec d bs = some (t, r) → StrictSuffix bs r) {d mt ai val : Nat} {r0 : Bytes} {t : Cbor} {rest : Bytes}
    (h : item lim rec d mt ai val r0 = some (t, rest)) : Suffix r0 rest := by
  match mt, h with
  | 0, h | 1, h => cases h; exact ⟨[], rfl⟩
  | 2, h | 3, h =>
    obtain ⟨_, e⟩ := Option.ite_none_left_eq_some.mp h
    cases e; exact suffix_drop _ _
  | 4, h =>
    obtain ⟨_, h⟩ := Option.ite_none_left_eq_some.mp h
    obtain ⟨_, h⟩ := Option.ite_none_left_eq_some.mp h
    obtain ⟨_, hs, e⟩ := Option.map_eq_some_iff.mp h
    cases e; exact decSeq_suffix (hrec _) _ _ _ _ hs
  | 5, h =>
    obtain ⟨_, h⟩ := Option.ite_none_left_eq_some.mp h
    obtain ⟨_, h⟩ := Option.ite_none_left_eq_some.mp h
    obtain ⟨_, hs, e⟩ := Option.map_eq_some_iff.mp h
    cases e; exact decSeq2_suffix (hrec _) _ _ _ _ hs
  | 6, h =>
    obtain ⟨_, h⟩ := Option.ite_none_left_eq_some.mp h
    obtain ⟨_, hs, e⟩ := Option.map_eq_some_iff.mp h
    cases e; exact (hrec _ _ _ _ hs).suffix
  | _ + 7, h =>
    obtain ⟨_, _, e⟩ := Option.map_eq_some_iff.mp h
    cases e; exact ⟨[], rfl⟩

theorem dec_consumes (lim : Limits) : ∀ (fuel depth : Nat) (bs : Bytes) (t : Cbor) (rest : Bytes),
    dec lim fuel depth bs = some (t, rest) → StrictSuffix bs rest
  | 0, _, _, _, _, h => by cases h
  | fuel + 1, depth, bs, t, rest, h => by
    rw [dec_succ] at h
    obtain ⟨⟨mt, ai, val, r0⟩, hh, h⟩ := Option.bind_eq_some_iff.mp h
    obtain ⟨_, h⟩ := Option.ite_none_left_eq_some.mp h
    exact (readHead_strict hh).trans_suffix (item_suffix (dec_consumes lim fuel) h)

theorem decodeFirst_consumes (lim : Limits) (bs : Bytes) (t : Cbor) (rest : Bytes)
    (h : decodeFirst lim bs = some (t, rest)) : StrictSuffix bs rest :=
  dec_consumes lim _ 0 bs t rest h

end Cbor
end Psa
