/- `dec ∘ enc = id` on well-formed trees within the decoder's limits. -/
import Psa.Cbor.Head
import Psa.Cbor.Item
namespace Psa
namespace Cbor

def isTag : Cbor → Bool
  | .tag _ _ => true
  | _ => false

mutual
/-- `t` is encodable (arguments below 2⁶⁴, simple values in range), within the decoder's
    limits when met at nesting counter `d`, and `f` levels of recursion suffice -/
def Ok (lim : Limits) : Cbor → Nat → Nat → Prop
  | .uint n, f, _ => 0 < f ∧ n < 2 ^ 64
  | .nint n, f, _ => 0 < f ∧ n < 2 ^ 64
  | .bstr b, f, _ => 0 < f ∧ b.length < 2 ^ 64
  | .tstr b, f, _ => 0 < f ∧ b.length < 2 ^ 64
  | .arr xs, f, d => 0 < f ∧ xs.length < 2 ^ 64 ∧ d + 1 ≤ lim.maxDepth ∧ xs.length ≤ lim.maxArr ∧
      OkList lim xs (f - 1) (d + 1)
  | .map kvs, f, d => 0 < f ∧ kvs.length < 2 ^ 64 ∧ d + 1 ≤ lim.maxDepth ∧ kvs.length ≤ lim.maxMap ∧
      OkPairs lim kvs (f - 1) (d + 1)
  | .tag t v, f, d => 0 < f ∧ t < 2 ^ 64 ∧
      (if isTag v then d + 1 else d) ≤ lim.maxDepth ∧ Ok lim v (f - 1) (if isTag v then d + 1 else d)
  | .simple n, f, _ => 0 < f ∧ (n < 24 ∨ (32 ≤ n ∧ n < 256))
  | .f16 b, f, _ => 0 < f ∧ b < 2 ^ 16
  | .f32 b, f, _ => 0 < f ∧ b < 2 ^ 32
  | .f64 b, f, _ => 0 < f ∧ b < 2 ^ 64
def OkList (lim : Limits) : List Cbor → Nat → Nat → Prop
  | [], _, _ => True
  | x :: xs, f, d => Ok lim x f d ∧ OkList lim xs f d
def OkPairs (lim : Limits) : List (Cbor × Cbor) → Nat → Nat → Prop
  | [], _, _ => True
  | (k, v) :: rest, f, d => Ok lim k f d ∧ Ok lim v f d ∧ OkPairs lim rest f d
end

def major : Cbor → Nat
  | .uint _ => 0 | .nint _ => 1 | .bstr _ => 2 | .tstr _ => 3 | .arr _ => 4 | .map _ => 5 | .tag _ _ => 6
  | _ => 7

theorem enc_first (v : Cbor) : ∃ b tl, enc v = b :: tl ∧ b.toNat / 32 = major v := by
  have key (mt n : Nat) (body : Bytes) (h : mt < 8) : ∃ b tl, encHead mt n ++ body = b :: tl ∧ b.toNat / 32 = mt := by
    obtain ⟨b, tl, h1, h2⟩ := encHead_first mt n h
    exact ⟨b, tl ++ body, by rw [h1]; rfl, h2⟩
  cases v with
  | uint n => exact encHead_first 0 n (by decide)
  | nint n => exact encHead_first 1 n (by decide)
  | bstr x => exact key 2 _ x (by decide)
  | tstr x => exact key 3 _ x (by decide)
  | arr xs => exact key 4 _ _ (by decide)
  | map kvs => exact key 5 _ _ (by decide)
  | tag t x => exact key 6 _ _ (by decide)
  | simple n =>
    rw [enc]
    split
    · exact ⟨_, _, rfl, (initial_byte 7 n (by decide) (by omega)).1⟩
    · exact ⟨_, _, rfl, rfl⟩
  | f16 x => exact ⟨_, _, rfl, rfl⟩
  | f32 x => exact ⟨_, _, rfl, rfl⟩
  | f64 x => exact ⟨_, _, rfl, rfl⟩

theorem startsWithTag_enc (v : Cbor) (rest : Bytes) : startsWithTag (enc v ++ rest) = isTag v := by
  obtain ⟨b, tl, h1, h2⟩ := enc_first v
  rw [h1]; simp only [List.cons_append, startsWithTag, h2]
  cases v <;> rfl

theorem Ok.fuel_pos {lim : Limits} {t : Cbor} {f d : Nat} (h : Ok lim t f d) : 0 < f := by
  cases t <;> exact h.1

/-- after a shortest-form head, `dec` is `item` on the head's fields -/
theorem dec_encHead (lim : Limits) (f d mt n : Nat) (tl : Bytes) (hmt : mt < 8) (hn : n < 2 ^ 64) :
    dec lim (f + 1) d (encHead mt n ++ tl) = item lim (dec lim f) d mt (aiOf n) n tl := by
  rw [dec_succ, readHead_encHead mt n tl hmt hn, Option.bind_some]
  exact if_neg (by have := aiOf_le n; omega)

/-- … and after the three-, five- or nine-byte head of a float -/
theorem dec_float (lim : Limits) (f d : Nat) (b : UInt8) (ai v : Nat) (rest : Bytes) (hb : b.toNat / 32 = 7)
    (hai : b.toNat % 32 = ai) (h25 : 25 ≤ ai) (h27 : ai ≤ 27) (hv : v < 256 ^ argLen ai) :
    dec lim (f + 1) d (b :: beBytes (argLen ai) v ++ rest) = (simpleOrFloat ai v).map fun t => (t, rest) := by
  rw [dec_succ, List.cons_append, readHead_wide b _ rest ai hai (by omega) h27 (beBytes_length _ v), beNat_beBytes,
    Nat.mod_eq_of_lt hv, Option.bind_some]
  show (if ai = 31 then none else item lim (dec lim f) d (b.toNat / 32) ai v rest) = _
  rw [if_neg (by omega), hb]; rfl

mutual
theorem dec_enc (lim : Limits) : ∀ (t : Cbor) (f d : Nat) (rest : Bytes), Ok lim t f d →
    dec lim f d (enc t ++ rest) = some (t, rest)
  | _, 0, _, _, h => absurd h.fuel_pos (Nat.lt_irrefl 0)
  | .uint n, f + 1, d, rest, ⟨_, hn⟩ => by rw [enc, dec_encHead lim f d 0 n rest (by omega) hn]; rfl
  | .nint n, f + 1, d, rest, ⟨_, hn⟩ => by rw [enc, dec_encHead lim f d 1 n rest (by omega) hn]; rfl
  | .bstr b, f + 1, d, rest, ⟨_, hn⟩ => by
    rw [enc, List.append_assoc, dec_encHead lim f d 2 _ _ (by omega) hn]
    simp [item]
  | .tstr b, f + 1, d, rest, ⟨_, hn⟩ => by
    rw [enc, List.append_assoc, dec_encHead lim f d 3 _ _ (by omega) hn]
    simp [item]
  | .arr xs, f + 1, d, rest, ⟨_, hn, hd, hm, hl⟩ => by
    rw [enc, List.append_assoc, dec_encHead lim f d 4 _ _ (by omega) hn]
    simp only [item]
    rw [if_neg (Nat.not_lt.mpr hd), if_neg (Nat.not_lt.mpr hm), decSeq_enc lim xs f (d + 1) rest hl]; rfl
  | .map kvs, f + 1, d, rest, ⟨_, hn, hd, hm, hl⟩ => by
    rw [enc, List.append_assoc, dec_encHead lim f d 5 _ _ (by omega) hn]
    simp only [item]
    rw [if_neg (Nat.not_lt.mpr hd), if_neg (Nat.not_lt.mpr hm), decSeq2_enc lim kvs f (d + 1) rest hl]; rfl
  | .tag t v, f + 1, d, rest, ⟨_, hn, hd, hv⟩ => by
    rw [enc, List.append_assoc, dec_encHead lim f d 6 _ _ (by omega) hn]
    simp only [item, startsWithTag_enc]
    rw [if_neg (Nat.not_lt.mpr hd), dec_enc lim v f _ rest hv]; rfl
  | .simple n, f + 1, d, rest, ⟨_, hn⟩ => by
    have e : enc (.simple n) = encHead 7 n := by
      rw [enc, encHead]
      by_cases h : n < 24
      · rw [if_pos h, if_pos h]
      · rw [if_neg h, if_neg h, if_pos (by omega : n < 256)]; rfl
    have e' : simpleOrFloat (aiOf n) n = some (.simple n) := by
      unfold aiOf simpleOrFloat
      by_cases h24 : n < 24
      · rw [if_pos h24, if_pos h24]
      · rw [if_neg h24, if_pos (by omega : n < 256), if_neg (by decide), if_pos rfl, if_neg (by omega)]
    rw [e, dec_encHead lim f d 7 n rest (by omega) (by omega)]
    show (simpleOrFloat (aiOf n) n).map _ = _
    rw [e']; rfl
  | .f16 b, f + 1, d, rest, ⟨_, hn⟩ => by
    rw [enc]; exact dec_float lim f d 249 25 b rest (by decide) (by decide) (by decide) (by decide) hn
  | .f32 b, f + 1, d, rest, ⟨_, hn⟩ => by
    rw [enc]; exact dec_float lim f d 250 26 b rest (by decide) (by decide) (by decide) (by decide) hn
  | .f64 b, f + 1, d, rest, ⟨_, hn⟩ => by
    rw [enc]; exact dec_float lim f d 251 27 b rest (by decide) (by decide) (by decide) (by decide) hn
theorem decSeq_enc (lim : Limits) : ∀ (xs : List Cbor) (f d : Nat) (rest : Bytes), OkList lim xs f d →
    decSeq (dec lim f d) xs.length (encList xs ++ rest) = some (xs, rest)
  | [], _, _, _, _ => rfl
  | x :: xs, f, d, rest, ⟨hx, hxs⟩ => by
    rw [encList, List.length_cons, decSeq, List.append_assoc, dec_enc lim x f d _ hx]
    simp only [decSeq_enc lim xs f d rest hxs]; rfl
theorem decSeq2_enc (lim : Limits) : ∀ (kvs : List (Cbor × Cbor)) (f d : Nat) (rest : Bytes), OkPairs lim kvs f d →
    decSeq2 (dec lim f d) kvs.length (encPairs kvs ++ rest) = some (kvs, rest)
  | [], _, _, _, _ => rfl
  | (k, v) :: kvs, f, d, rest, ⟨hk, hv, hr⟩ => by
    rw [encPairs, List.length_cons, decSeq2, List.append_assoc, List.append_assoc, dec_enc lim k f d _ hk]
    simp only [dec_enc lim v f d _ hv, decSeq2_enc lim kvs f d rest hr]; rfl
end

end Cbor
end Psa
