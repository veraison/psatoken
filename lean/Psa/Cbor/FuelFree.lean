/- The fuel of `dec` never binds: every level reads a head, so the recursion is no deeper than the input is long. -/
import Psa.Cbor.Consumes
namespace Psa
namespace Cbor

/-- two item decoders that agree on inputs no longer than `bs` give the same sequence: the first never hands the
    next element a longer input -/
theorem decSeq_congr {g g' : Bytes → Option (Cbor × Bytes)} (hg : ∀ b t r, g b = some (t, r) → StrictSuffix b r) :
    ∀ (n : Nat) (bs : Bytes), (∀ b, b.length ≤ bs.length → g b = g' b) → decSeq g n bs = decSeq g' n bs
  | 0, _, _ => rfl
  | n + 1, bs, h => by
    rw [decSeq, decSeq, ← h bs (Nat.le_refl _)]
    cases hx : g bs with
    | none => rfl
    | some p =>
      have := (hg _ _ _ hx).length_lt
      exact congrArg (Option.map _) (decSeq_congr hg n p.2 fun b hb => h b (by omega))

theorem decSeq2_congr {g g' : Bytes → Option (Cbor × Bytes)} (hg : ∀ b t r, g b = some (t, r) → StrictSuffix b r)
    (n : Nat) (bs : Bytes) (h : ∀ b, b.length ≤ bs.length → g b = g' b) : decSeq2 g n bs = decSeq2 g' n bs := by
  rw [decSeq2_eq, decSeq2_eq, decSeq_congr hg _ bs h]

/-- the body of an item is the same for two nested decoders that agree on inputs no longer than what follows the head -/
theorem item_congr {lim : Limits} {rec rec' : Nat → Bytes → Option (Cbor × Bytes)}
    (hrec : ∀ d bs t r, rec d bs = some (t, r) → StrictSuffix bs r) (d mt ai val : Nat) (r0 : Bytes)
    (h : ∀ d' b, b.length ≤ r0.length → rec d' b = rec' d' b) :
    item lim rec d mt ai val r0 = item lim rec' d mt ai val r0 := by
  -- whatever `mt` is: `item` calls `rec` in three places, each time on `r0`
  unfold item
  dsimp only
  rw [decSeq_congr (hrec _) val r0 (h _), decSeq2_congr (hrec _) val r0 (h _), h _ r0 (Nat.le_refl _)]

theorem dec_nil (lim : Limits) (f d : Nat) : dec lim f d [] = none := by
  cases f with
  | zero => rfl
  | succ f => rw [dec_succ]; rfl

/-- with at least as much fuel as the input has bytes, the amount does not matter: where the fuel runs out the input has
    run out too -/
theorem dec_fuel (lim : Limits) : ∀ (f F d : Nat) (bs : Bytes), bs.length ≤ f → bs.length ≤ F →
    dec lim F d bs = dec lim f d bs
  | 0, _, _, _, hf, _ => by rw [List.eq_nil_of_length_eq_zero (Nat.le_zero.mp hf), dec_nil, dec_nil]
  | _, 0, _, _, _, hF => by rw [List.eq_nil_of_length_eq_zero (Nat.le_zero.mp hF), dec_nil, dec_nil]
  | f + 1, F + 1, d, bs, hf, hF => by
    rw [dec_succ, dec_succ]
    cases hh : readHead bs with
    | none => rfl
    | some q =>
      obtain ⟨mt, ai, val, r0⟩ := q
      have := (readHead_strict hh).length_lt
      simp only [Option.bind_some]
      rw [item_congr (dec_consumes lim F) d mt ai val r0 fun d' b hb => dec_fuel lim f F d' b (by omega) (by omega)]

end Cbor
end Psa
