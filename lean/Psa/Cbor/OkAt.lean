/- Well-formedness without fuel (`OkAt`, `height`): `decodeAll (enc t) = some t`, the encoder is injective; `OkAt` of a map
   does not depend on the order of its entries (for `Proofs/Perm`). -/
import Psa.Cbor.RoundTrip
namespace Psa
namespace Cbor

mutual
/-- nesting height of a tree: the recursion depth `dec` needs -/
def height : Cbor → Nat
  | .arr xs => 1 + heightList xs
  | .map kvs => 1 + heightPairs kvs
  | .tag _ v => 1 + height v
  | _ => 1
def heightList : List Cbor → Nat
  | [] => 0
  | x :: xs => max (height x) (heightList xs)
def heightPairs : List (Cbor × Cbor) → Nat
  | [] => 0
  | (k, v) :: rest => max (max (height k) (height v)) (heightPairs rest)
end

mutual
/-- encodable and within the decoder's limits when met at nesting counter `d` -/
def OkAt (lim : Limits) : Cbor → Nat → Prop
  | .uint n, _ => n < 2 ^ 64
  | .nint n, _ => n < 2 ^ 64
  | .bstr b, _ => b.length < 2 ^ 64
  | .tstr b, _ => b.length < 2 ^ 64
  | .arr xs, d => xs.length < 2 ^ 64 ∧ d + 1 ≤ lim.maxDepth ∧ xs.length ≤ lim.maxArr ∧ OkAtList lim xs (d + 1)
  | .map kvs, d => kvs.length < 2 ^ 64 ∧ d + 1 ≤ lim.maxDepth ∧ kvs.length ≤ lim.maxMap ∧ OkAtPairs lim kvs (d + 1)
  | .tag t v, d => t < 2 ^ 64 ∧ (if isTag v then d + 1 else d) ≤ lim.maxDepth ∧ OkAt lim v (if isTag v then d + 1 else d)
  | .simple n, _ => n < 24 ∨ (32 ≤ n ∧ n < 256)
  | .f16 b, _ => b < 2 ^ 16
  | .f32 b, _ => b < 2 ^ 32
  | .f64 b, _ => b < 2 ^ 64
def OkAtList (lim : Limits) : List Cbor → Nat → Prop
  | [], _ => True
  | x :: xs, d => OkAt lim x d ∧ OkAtList lim xs d
def OkAtPairs (lim : Limits) : List (Cbor × Cbor) → Nat → Prop
  | [], _ => True
  | (k, v) :: rest, d => OkAt lim k d ∧ OkAt lim v d ∧ OkAtPairs lim rest d
end

theorem okAtList_of_forall (lim : Limits) (d : Nat) :
    ∀ xs : List Cbor, (∀ x ∈ xs, OkAt lim x d) → OkAtList lim xs d
  | [], _ => trivial
  | x :: xs, h => ⟨h x List.mem_cons_self, okAtList_of_forall lim d xs fun y hy => h y (List.mem_cons_of_mem x hy)⟩

theorem okAtPairs_of_forall (lim : Limits) (d : Nat) :
    ∀ kvs : List (Cbor × Cbor), (∀ kv ∈ kvs, OkAt lim kv.1 d ∧ OkAt lim kv.2 d) → OkAtPairs lim kvs d
  | [], _ => trivial
  | kv :: kvs, h =>
    ⟨(h kv List.mem_cons_self).1, (h kv List.mem_cons_self).2,
      okAtPairs_of_forall lim d kvs fun y hy => h y (List.mem_cons_of_mem kv hy)⟩

theorem forall_of_okAtPairs (lim : Limits) (d : Nat) :
    ∀ kvs : List (Cbor × Cbor), OkAtPairs lim kvs d → ∀ kv ∈ kvs, OkAt lim kv.1 d ∧ OkAt lim kv.2 d
  | kv :: kvs, ⟨hk, hv, hr⟩, y, hy => by
    rcases List.mem_cons.mp hy with rfl | hy
    · exact ⟨hk, hv⟩
    · exact forall_of_okAtPairs lim d kvs hr y hy

theorem okAt_map_perm (lim : Limits) (d : Nat) {l₁ l₂ : List (Cbor × Cbor)} (hp : l₁.Perm l₂) (h : OkAt lim (.map l₁) d) :
    OkAt lim (.map l₂) d := by
  obtain ⟨h1, h2, h3, h4⟩ := h
  rw [hp.length_eq] at h1 h3
  exact ⟨h1, h2, h3, okAtPairs_of_forall lim _ l₂ fun kv hkv => forall_of_okAtPairs lim _ l₁ h4 kv (hp.mem_iff.mpr hkv)⟩

mutual
theorem ok_of_okAt (lim : Limits) (t : Cbor) (f d : Nat) (h : OkAt lim t d) (hf : height t ≤ f) : Ok lim t f d := by
  cases t with
  | arr xs =>
    simp only [height] at hf
    obtain ⟨h1, h2, h3, h4⟩ := h
    exact ⟨by omega, h1, h2, h3, okList_of_okAt lim xs (f - 1) (d + 1) h4 (by omega)⟩
  | map kvs =>
    simp only [height] at hf
    obtain ⟨h1, h2, h3, h4⟩ := h
    exact ⟨by omega, h1, h2, h3, okPairs_of_okAt lim kvs (f - 1) (d + 1) h4 (by omega)⟩
  | tag t v =>
    simp only [height] at hf
    obtain ⟨h1, h2, h3⟩ := h
    exact ⟨by omega, h1, h2, ok_of_okAt lim v (f - 1) _ h3 (by omega)⟩
  | _ => exact ⟨hf, h⟩
theorem okList_of_okAt (lim : Limits) : ∀ (xs : List Cbor) (f d : Nat), OkAtList lim xs d → heightList xs ≤ f →
    OkList lim xs f d
  | [], _, _, _, _ => trivial
  | x :: xs, f, d, h, hf => by
    simp only [heightList, Nat.max_le] at hf
    exact ⟨ok_of_okAt lim x f d h.1 hf.1, okList_of_okAt lim xs f d h.2 hf.2⟩
theorem okPairs_of_okAt (lim : Limits) : ∀ (kvs : List (Cbor × Cbor)) (f d : Nat), OkAtPairs lim kvs d →
    heightPairs kvs ≤ f → OkPairs lim kvs f d
  | [], _, _, _, _ => trivial
  | (k, v) :: rest, f, d, h, hf => by
    simp only [heightPairs, Nat.max_le] at hf
    exact ⟨ok_of_okAt lim k f d h.1 hf.1.1, ok_of_okAt lim v f d h.2.1 hf.1.2, okPairs_of_okAt lim rest f d h.2.2 hf.2⟩
end

mutual
/-- every level of nesting has a head of at least one byte -/
theorem height_le_length (t : Cbor) : height t ≤ (enc t).length := by
  have key (mt n k : Nat) (body : Bytes) (hk : k ≤ body.length) : 1 + k ≤ (encHead mt n ++ body).length := by
    have := encHead_length_pos mt n
    rw [List.length_append]; omega
  cases t with
  | arr xs => exact key 4 _ _ _ (heightList_le_length xs)
  | map kvs => exact key 5 _ _ _ (heightPairs_le_length kvs)
  | tag t v => exact key 6 _ _ _ (height_le_length v)
  | _ =>
    obtain ⟨b, tl, e, _⟩ := enc_first _
    rw [e]; exact Nat.succ_pos _
theorem heightList_le_length : ∀ xs : List Cbor, heightList xs ≤ (encList xs).length
  | [] => by simp [heightList]
  | x :: xs => by
    have := height_le_length x
    have := heightList_le_length xs
    simp only [heightList, encList, List.length_append]; omega
theorem heightPairs_le_length : ∀ kvs : List (Cbor × Cbor), heightPairs kvs ≤ (encPairs kvs).length
  | [] => by simp [heightPairs]
  | (k, v) :: rest => by
    have := height_le_length k
    have := height_le_length v
    have := heightPairs_le_length rest
    simp only [heightPairs, encPairs, List.length_append]; omega
end

theorem decodeFirst_enc (lim : Limits) (t : Cbor) (rest : Bytes) (h : OkAt lim t 0) :
    decodeFirst lim (enc t ++ rest) = some (t, rest) := by
  have := height_le_length t
  exact dec_enc lim t _ 0 rest (ok_of_okAt lim t _ 0 h (by rw [List.length_append]; omega))

theorem decodeAll_enc (lim : Limits) (t : Cbor) (h : OkAt lim t 0) : decodeAll lim (enc t) = some t := by
  have := decodeFirst_enc lim t [] h
  rw [List.append_nil] at this
  rw [decodeAll, ← decodeFirst, this]

theorem decodeAll_enc_append (lim : Limits) (t : Cbor) (rest : Bytes) (h : OkAt lim t 0) (hr : rest ≠ []) :
    decodeAll lim (enc t ++ rest) = none := by
  rw [decodeAll, ← decodeFirst, decodeFirst_enc lim t rest h]
  cases rest with
  | nil => exact absurd rfl hr
  | cons _ _ => rfl

theorem enc_injective (lim : Limits) {t t' : Cbor} (h : OkAt lim t 0) (h' : OkAt lim t' 0) (he : enc t = enc t') : t = t' :=
  Option.some.inj ((decodeAll_enc lim t h).symm.trans (he ▸ decodeAll_enc lim t' h'))

end Cbor
end Psa
