/- Head arithmetic: big-endian bytes, `readHead ∘ encHead`. -/
import Psa.Cbor.Basic
namespace Psa
open Cbor

theorem beNat_append_single (a : Bytes) (b : UInt8) : beNat (a ++ [b]) = beNat a * 256 + b.toNat := by
  simp [beNat, List.foldl_append]

theorem beBytes_length (k n : Nat) : (beBytes k n).length = k := by
  induction k generalizing n with
  | zero => rfl
  | succ k ih => simp [beBytes, ih]

theorem beNat_beBytes (k n : Nat) : beNat (beBytes k n) = n % 256 ^ k := by
  induction k generalizing n with
  | zero => simp [beBytes, beNat, Nat.mod_one]
  | succ k ih =>
    simp only [beBytes, beNat_append_single, ih, UInt8.toNat_ofNat']
    have h8 : (2:Nat) ^ 8 = 256 := by decide
    rw [h8, Nat.pow_succ, Nat.mul_comm (256 ^ k) 256, Nat.mod_mul]
    omega

namespace Cbor

/-- additional-information value the shortest-form encoder uses for argument `n` -/
def aiOf (n : Nat) : Nat :=
  if n < 24 then n else if n < 256 then 24 else if n < 65536 then 25 else if n < 4294967296 then 26 else 27

theorem initial_byte (mt ai : Nat) (hmt : mt < 8) (hai : ai < 32) :
    (UInt8.ofNat (mt * 32 + ai)).toNat / 32 = mt ∧ (UInt8.ofNat (mt * 32 + ai)).toNat % 32 = ai := by
  rw [UInt8.toNat_ofNat']; omega

/-- bytes of argument after an initial byte with additional information `ai` -/
def argLen : Nat → Nat
  | 24 => 1 | 25 => 2 | 26 => 4 | 27 => 8 | _ => 0

/-- the shortest form: below 24 the argument is the additional information itself; otherwise it follows the initial
    byte in the narrowest of 1, 2, 4, 8 bytes that hold it -/
theorem encHead_cases (mt n : Nat) :
    aiOf n = n ∧ n < 24 ∧ encHead mt n = [UInt8.ofNat (mt * 32 + aiOf n)] ∨
    24 ≤ aiOf n ∧ aiOf n ≤ 27 ∧ (n < 2 ^ 64 → n < 256 ^ argLen (aiOf n)) ∧
      encHead mt n = UInt8.ofNat (mt * 32 + aiOf n) :: beBytes (argLen (aiOf n)) n := by
  unfold encHead aiOf
  by_cases h1 : n < 24
  · rw [if_pos h1, if_pos h1]; exact .inl ⟨rfl, h1, rfl⟩
  rw [if_neg h1, if_neg h1]
  by_cases h2 : n < 256
  · rw [if_pos h2, if_pos h2]
    exact .inr ⟨by decide, by decide, fun _ => h2, by simp [argLen, beBytes, Nat.mod_eq_of_lt h2]⟩
  rw [if_neg h2, if_neg h2]
  by_cases h3 : n < 65536
  · rw [if_pos h3, if_pos h3]; exact .inr ⟨by decide, by decide, fun _ => h3, rfl⟩
  rw [if_neg h3, if_neg h3]
  by_cases h4 : n < 4294967296
  · rw [if_pos h4, if_pos h4]; exact .inr ⟨by decide, by decide, fun _ => h4, rfl⟩
  rw [if_neg h4, if_neg h4]; exact .inr ⟨by decide, by decide, id, rfl⟩

theorem aiOf_le (n : Nat) : aiOf n ≤ 27 := by
  rcases encHead_cases 0 n with ⟨e, h, _⟩ | ⟨_, h, _⟩ <;> omega

theorem encHead_cons (mt n : Nat) : ∃ tl, encHead mt n = UInt8.ofNat (mt * 32 + aiOf n) :: tl := by
  rcases encHead_cases mt n with ⟨_, _, h⟩ | ⟨_, _, _, h⟩ <;> exact ⟨_, h⟩

theorem encHead_length_pos (mt n : Nat) : 0 < (encHead mt n).length := by
  obtain ⟨tl, h⟩ := encHead_cons mt n
  rw [h]; exact Nat.succ_pos _

theorem encHead_first (mt n : Nat) (hmt : mt < 8) : ∃ b tl, encHead mt n = b :: tl ∧ b.toNat / 32 = mt := by
  obtain ⟨tl, h⟩ := encHead_cons mt n
  exact ⟨_, tl, h, (initial_byte mt _ hmt (by have := aiOf_le n; omega)).1⟩

/-- what `readHead` makes of an initial byte: the argument in it, a break, a reserved value, or the argument in the
    bytes that follow -/
theorem readHead_cons (b : UInt8) (tl : Bytes) : readHead (b :: tl) =
    if b.toNat % 32 < 24 then some (b.toNat / 32, b.toNat % 32, b.toNat % 32, tl)
    else if b.toNat % 32 = 31 then some (b.toNat / 32, 31, 0, tl)
    else if 27 < b.toNat % 32 ∨ tl.length < argLen (b.toNat % 32) then none
    else some (b.toNat / 32, b.toNat % 32, beNat (tl.take (argLen (b.toNat % 32))), tl.drop (argLen (b.toNat % 32))) := by
  simp only [readHead]
  generalize b.toNat % 32 = ai
  by_cases h1 : ai < 24
  · rw [if_pos h1, if_pos h1]
  by_cases h7 : 27 < ai
  · rw [if_neg h1, if_neg (by omega), if_neg (by omega), if_neg (by omega), if_neg (by omega), if_neg h1]
    by_cases h31 : ai = 31
    · rw [if_pos h31, if_pos h31]
    · rw [if_neg h31, if_neg h31, if_pos (.inl h7)]
  have hk : ai = 24 ∨ ai = 25 ∨ ai = 26 ∨ ai = 27 := by omega
  rcases hk with rfl | rfl | rfl | rfl
  · cases tl <;> simp [argLen, beNat]
  all_goals simp [argLen]

theorem readHead_wide (b : UInt8) (body rest : Bytes) (ai : Nat) (hai : b.toNat % 32 = ai) (h24 : 24 ≤ ai) (h27 : ai ≤ 27)
    (hl : body.length = argLen ai) : readHead (b :: (body ++ rest)) = some (b.toNat / 32, ai, beNat body, rest) := by
  subst hai
  rw [readHead_cons, if_neg (by omega), if_neg (by omega), if_neg (by rw [List.length_append]; omega),
    List.take_left' hl, List.drop_left' hl]

theorem readHead_encHead (mt n : Nat) (rest : Bytes) (hmt : mt < 8) (hn : n < 2 ^ 64) :
    readHead (encHead mt n ++ rest) = some (mt, aiOf n, n, rest) := by
  obtain ⟨hmt', hai⟩ := initial_byte mt (aiOf n) hmt (by have := aiOf_le n; omega)
  rcases encHead_cases mt n with ⟨e, h, hh⟩ | ⟨h24, h27, hlt, hh⟩
  · rw [hh, List.singleton_append, readHead_cons, hmt', hai, e, if_pos h]
  · rw [hh, List.cons_append, readHead_wide _ _ rest _ hai h24 h27 (beBytes_length _ n), beNat_beBytes,
      Nat.mod_eq_of_lt (hlt hn), hmt']

end Cbor
end Psa
