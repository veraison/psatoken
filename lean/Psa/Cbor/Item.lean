/- `dec` one level at a time: the head, then the body `item` with the recursive calls left open; `decSeq2` through `decSeq`. -/
import Psa.Cbor.Basic
namespace Psa
namespace Cbor

/-- major type 7 by additional information: simple values and floats -/
def simpleOrFloat (ai val : Nat) : Option Cbor :=
  if ai < 24 then some (.simple val)
  else if ai = 24 then (if val < 32 then none else some (.simple val))
  else if ai = 25 then some (.f16 val)
  else if ai = 26 then some (.f32 val)
  else some (.f64 val)

/-- `[k₁, v₁, k₂, v₂, …]` as `[(k₁, v₁), (k₂, v₂), …]` -/
def pairUp : List Cbor → List (Cbor × Cbor)
  | k :: v :: rest => (k, v) :: pairUp rest
  | _ => []

/-- `n` pairs in sequence are `2 * n` items in sequence: a fact about `decSeq` for any item decoder and any count carries
    over to `decSeq2` -/
theorem decSeq2_eq (f : Bytes → Option (Cbor × Bytes)) : ∀ (n : Nat) (bs : Bytes),
    decSeq2 f n bs = (decSeq f (2 * n) bs).map fun p => (pairUp p.1, p.2)
  | 0, _ => rfl
  | n + 1, bs => by
    rw [decSeq2, Nat.mul_succ, decSeq]
    cases f bs with
    | none => rfl
    | some p =>
      simp only [decSeq]
      cases f p.2 with
      | none => rfl
      | some q => simp only [decSeq2_eq f n q.2, Option.map_map]; rfl

/-- the item whose head `(mt, ai, val)` has been read, `rec d'` decoding a nested item at counter `d'` -/
def item (lim : Limits) (rec : Nat → Bytes → Option (Cbor × Bytes)) (depth mt ai val : Nat) (rest : Bytes) :
    Option (Cbor × Bytes) :=
  match mt with
  | 0 => some (.uint val, rest)
  | 1 => some (.nint val, rest)
  | 2 => if rest.length < val then none else some (.bstr (rest.take val), rest.drop val)
  | 3 => if rest.length < val then none else some (.tstr (rest.take val), rest.drop val)
  | 4 =>
    if depth + 1 > lim.maxDepth then none
    else if val > lim.maxArr then none
    else (decSeq (rec (depth + 1)) val rest).map fun (xs, r) => (.arr xs, r)
  | 5 =>
    if depth + 1 > lim.maxDepth then none
    else if val > lim.maxMap then none
    else (decSeq2 (rec (depth + 1)) val rest).map fun (kvs, r) => (.map kvs, r)
  | 6 =>
    let d' := if startsWithTag rest then depth + 1 else depth
    if d' > lim.maxDepth then none
    else (rec d' rest).map fun (v, r) => (.tag val v, r)
  | _ => (simpleOrFloat ai val).map fun t => (t, rest)

theorem dec_succ (lim : Limits) (fuel depth : Nat) (bs : Bytes) :
    dec lim (fuel + 1) depth bs = (readHead bs).bind fun (mt, ai, val, rest) =>
      if ai = 31 then none else item lim (dec lim fuel) depth mt ai val rest := by
  rw [dec]
  cases readHead bs with
  | none => rfl
  | some q =>
    obtain ⟨mt, ai, val, rest⟩ := q
    refine ite_congr rfl (fun _ => rfl) fun _ => ?_
    match mt with
    | 0 | 1 | 2 | 3 | 4 | 5 | 6 => rfl
    | _ + 7 =>
      simp only [item, simpleOrFloat, apply_ite (Option.map fun t : Cbor => (t, rest)), Option.map_some, Option.map_none]

end Cbor
end Psa
