/-
  C09 — CBOR encode/decode is the identity on claims and stable on bytes.
  Property theorems only.  (The observational round-trip theorem over the typed decoder is
  in `decode_encode_*`; text claims must be valid UTF-8 — the one recorded defect, D10.)
-/
import Psa.Props.C01
import Psa.Proofs.RoundTrip
namespace Psa.Props.C09
open Psa Psa.Model Psa.Spec Psa.Proofs

/-- Encoding cannot tell a nil component interface from an empty container: together with
    C11.history_lww, the encoding of a setter-built claims-set depends only on the final values. -/
theorem encode_normalize (c : Claims) : encodeClaims c.normalize = encodeClaims c := by
  obtain ⟨prof, canonical, profile, clientId, lifecycle, implId, bootSeed, certRef, sw, noSw, nonce, instId, vsi⟩ := c
  cases prof <;> cases sw <;> rfl

/-- The bytes emitted for a valid claims-set decode (with the verified CBOR reader) to exactly
    the wire token of that claims-set: one entry per claim that is set, value for value. -/
theorem own_encoding_reads_back (c : Claims) (hv : validate c = .ok ()) (hb : ClaimsBounded c) :
    ∃ b, encodeClaims c = .ok b ∧ Cbor.decodeAll {} b = some (wireToken c) :=
  ⟨_, encodeClaims_wire c hv, Cbor.decodeAll_enc {} _ (okAt_wireToken c hb)⟩

/-- Text that is not valid UTF-8 is the recorded exception (D10, known finding `invalid-utf8-text`): the typed decoder
    refuses such text — the witness here is the one byte `0xff`; that a claims-set holding it validates and encodes is
    shown on the implementation by the check. -/
theorem invalid_utf8_rejected_on_decode : decText (.tstr [0xff]) = .err := by decide

/-- **decode ∘ encode, through the typed decoder**: for every valid claims-set of a built-in profile whose free text is
    valid UTF-8 (the recorded exception D10 is exactly the violation of this hypothesis), the library's decoder applied
    to the library's encoding — well-formedness pass, profile dispatch on key 265, struct decode key by key, component
    arrays, nonce forms — returns the claims-set itself up to the container holding the components (`RT.rt`). `u` is the
    URL normaliser of `eat.Profile` (an oracle of the model); it must leave the profile-2 name as it is. -/
theorem decode_encode (u : Bytes → Dec Bytes) (extra : List Bytes) (c : Claims) (hv : validate c = .ok ())
    (hb : ClaimsBounded c) (ht : RT.TextOK c) (hbi : RT.Builtin c) (hu : u p2Name = .ok p2Name) :
    ∃ b, encodeClaims c = .ok b ∧ decodeClaims u extra b = .ok (RT.rt c) :=
  RT.decode_encode u extra c hv hb ht hbi hu

/-- **identical getter results, still valid, and re-encoding reproduces the bytes** -/
theorem decode_encode_obs (u : Bytes → Dec Bytes) (extra : List Bytes) (c : Claims) (hv : validate c = .ok ())
    (hb : ClaimsBounded c) (ht : RT.TextOK c) (hbi : RT.Builtin c) (hu : u p2Name = .ok p2Name) :
    ∃ b c', encodeClaims c = .ok b ∧ decodeClaims u extra b = .ok c' ∧ (∀ g, Model.get g c' = Model.get g c) ∧
      validate c' = .ok () ∧ encodeClaims c' = .ok b :=
  RT.decode_encode_obs u extra c hv hb ht hbi hu

-- non-vacuity: the sample profile-2 claims-set of C01 meets every hypothesis of the round-trip theorems
example : validate C01.sampleP2 = .ok () := C01.sampleP2_valid
example : RT.Builtin C01.sampleP2 := Or.inr ⟨rfl, by simp only [C01.sampleP2], rfl⟩
example : RT.TextOK C01.sampleP2 := by
  refine ⟨fun s h => ?_, nofun, nofun, fun sc h => ?_⟩
  · obtain rfl : p2Name = s := ProfVal.str.inj (Option.some.inj h)
    exact RT.p2Name_text.1
  · obtain rfl : sc = C01.sampleComp := List.mem_singleton.mp h
    exact ⟨nofun, nofun, nofun⟩

end Psa.Props.C09
