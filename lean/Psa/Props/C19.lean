/-
  C19 — An Evidence never verifies for claims other than the ones last signed or decoded.
  Property theorems, and the histories they quantify over (`EvOp`, `St`, `step`, `run`) with the invariant (`Inv`).  Quantifier: every history (list of operations of any length) of
  attach / sign / validate-and-sign (with honest, failing and empty-signature signers of any key
  and algorithm) / COSE-decode (any bytes) / verify (any key) on one Evidence — by induction on
  the history.  Signatures are the ideal functionality of C02.
-/
import Psa.Proofs.Evidence
namespace Psa.Props.C19
open Psa Psa.Model Psa.Proofs

inductive EvOp
  | setClaims (c : Claims)
  | sign (validated : Bool) (s : Signer)
  | unmarshal (bs : Bytes)
  | verify (k : Nat)

/-- state of a history: world, the Evidence, and two ghost flags -/
structure St where
  w : World
  e : Ev
  /-- claims were (re)attached since the last sign / decode operation -/
  replaced : Bool
  /-- the last signing attempt failed and no sign / decode has succeeded since -/
  lastSignFailed : Bool

inductive Out
  | unit (r : Outcome Unit)
  | token (r : Outcome Bytes)
  | dec (r : Dec Unit)

def Out.failed : Out → Bool
  | .unit (.ok _) => false
  | .token (.ok _) => false
  | .dec (.ok _) => false
  | _ => true

def Out.tokenOf : Out → Option Bytes
  | .token (.ok b) => some b
  | _ => none

def decOk {α} : Dec α → Bool
  | .ok _ => true
  | _ => false

variable (u : Bytes → Dec Bytes) (extra : List Bytes) (kt : KeyTable)

def step (s : St) : EvOp → St × Out
  | .setClaims c =>
    let (e', r) := evSetClaims s.e c
    ({ s with e := e', replaced := s.replaced || r.isOk }, .unit r)
  | .sign v sg =>
    let (w', e', r) := evSign v s.w s.e sg
    ({ w := w', e := e', replaced := false, lastSignFailed := !r.isOk }, .token r)
  | .unmarshal bs =>
    let (e', r) := evUnmarshal u extra s.e bs
    ({ s with e := e', replaced := false, lastSignFailed := s.lastSignFailed && !(decOk r) }, .dec r)
  | .verify k => (s, .unit (evVerify kt s.w s.e k))

def init : St := { w := World.empty, e := Ev.empty, replaced := false, lastSignFailed := false }

def run (ops : List EvOp) : St := ops.foldl (fun s o => (step u extra kt s o).1) init

/-- the attached claims are bound to the message: its payload is their encoding (after a
    signing operation) or they are its decoding (after a decode) -/
def Bound (e : Ev) : Prop :=
  ∀ c m b, e.claims = some c → e.msg = some m → m.payload = some b →
    encodeClaims c = .ok b ∨ decodeClaims u extra b = .ok c

/-- the message cannot verify under any key: it carries no signature -/
def Dead (e : Ev) : Prop := ∀ m, e.msg = some m → m.sig = []

def Inv (s : St) : Prop :=
  (s.replaced = false → Bound u extra s.e) ∧ (s.lastSignFailed = true → Dead s.e)

/-- a failed signing operation returns no token -/
theorem evSign_failed_no_token (v : Bool) (w : World) (e : Ev) (sg : Signer) :
    (evSign v w e sg).2.2.isOk = false → ∀ b, (evSign v w e sg).2.2 ≠ .ok b := by
  intro h b hb; rw [hb] at h; cases h

theorem inv_step (s : St) (op : EvOp) (h : Inv u extra s) : Inv u extra (step u extra kt s op).1 := by
  obtain ⟨hb, hd⟩ := h
  cases op with
  | setClaims c =>
    simp only [step, evSetClaims]
    cases hv : validate c with
    | ok _ => exact ⟨fun hr => by simp [Outcome.isOk] at hr, hd⟩
    | err | panic => exact ⟨fun hr => hb (by simpa [Outcome.isOk] using hr), hd⟩
  | sign v sg =>
    simp only [step]
    rcases evSign_cases v s.w s.e sg with ⟨p, hp, hg, hr⟩ | ⟨m, r, heq, hr, hsig, hpay⟩
    · rw [evSign_ok v s.w s.e sg p hp hg hr]
      refine ⟨fun _ c m b hc hm hb' => ?_, fun hl => by simp [Outcome.isOk] at hl⟩
      cases hm; cases hb'
      rw [hc] at hp
      exact Or.inl ((signPayload_ok_iff v c p).mp hp).2
    · rw [heq]
      refine ⟨fun _ c m' b hc hm' hb' => ?_, fun _ m' hm' => by cases hm'; exact hsig⟩
      cases hm'
      have hp := hpay b hb'
      rw [hc] at hp
      exact Or.inl ((signPayload_ok_iff v c b).mp hp).2
  | unmarshal bs =>
    simp only [step]
    rcases evUnmarshal_cases u extra s.e bs with ⟨m, p, c, _, hp, hc, heq⟩ | ⟨cl, r, heq, _⟩
    · rw [heq]
      refine ⟨fun _ c' m' b hc' hm' hb' => ?_, fun hl => by simp [decOk] at hl⟩
      cases hc'; cases hm'
      rw [hp] at hb'; cases hb'
      exact Or.inr hc
    · rw [heq]
      exact ⟨fun _ c' m' b _ hm' hb' => (by cases hm'; cases hb'), fun _ m' hm' => by cases hm'; rfl⟩
  | verify k => exact ⟨hb, hd⟩

/-- **The invariant holds in every reachable state** (induction on the history). -/
theorem inv_reachable (ops : List EvOp) : Inv u extra (run u extra kt ops) :=
  List.foldlRecOn (motive := Inv u extra) ops _ ⟨fun _ _ _ _ hc => (nomatch hc), fun h => (nomatch h)⟩
    fun s hs op _ => inv_step u extra kt s op hs

theorem Out.no_token_of_failed (o : Out) (h : o.failed = true) : o.tokenOf = none := by
  rcases o with _ | (_ | _ | _) | _ <;> first | rfl | cases h

/-- (i) A failed operation returns no token. -/
theorem failed_op_no_token (s : St) (op : EvOp) (h : (step u extra kt s op).2.failed = true) :
    (step u extra kt s op).2.tokenOf = none :=
  Out.no_token_of_failed _ h

/-- (ii) Whenever verification succeeds in a reachable state and the claims were not replaced
    since the last sign or decode, the attached claims are nil, or the payload the verified
    signature covers is their encoding / they are its decoding. -/
theorem verified_claims_bound (ops : List EvOp) (k : Nat)
    (hv : evVerify kt (run u extra kt ops).w (run u extra kt ops).e k = .ok ())
    (hr : (run u extra kt ops).replaced = false) :
    (run u extra kt ops).e.claims = none ∨
    ∃ c m b, (run u extra kt ops).e.claims = some c ∧ (run u extra kt ops).e.msg = some m ∧ m.payload = some b ∧
      (encodeClaims c = .ok b ∨ decodeClaims u extra b = .ok c) := by
  obtain ⟨m, pl, _, hm, hpl, _⟩ := verify_sound kt _ _ k hv
  cases hc : (run u extra kt ops).e.claims with
  | none => exact Or.inl rfl
  | some c => exact Or.inr ⟨c, m, pl, rfl, hm, hpl, (inv_reachable u extra kt ops).1 hr c m pl hc hm hpl⟩

/-- (iii) After a failed signing attempt verification fails, for every key, until the next
    successful sign or decode. -/
theorem no_verify_after_failed_sign (ops : List EvOp) (k : Nat) (h : (run u extra kt ops).lastSignFailed = true) :
    evVerify kt (run u extra kt ops).w (run u extra kt ops).e k ≠ .ok () := by
  intro hv
  obtain ⟨m, _, _, hm, _, _, _, hs, _⟩ := verify_sound kt _ _ k hv
  exact hs ((inv_reachable u extra kt ops).2 h m hm)

/-- (iv) A failure does not prevent a later success: whatever the history, signing valid attached
    claims with an honest signer succeeds and the result verifies under the signer's key. -/
theorem failure_not_sticky (s : St) (c : Claims) (sg : Signer) (b : Bytes) (hc : s.e.claims = some c)
    (hval : validate c = .ok ()) (henc : encodeClaims c = .ok b) (hg : sg.kind = .good) (hr : sg.reply ≠ [])
    (hkt : kt sg.key sg.alg = true) (halg : protAlg (protOfAlg sg.alg) = .alg sg.alg) :
    let s' := (step u extra kt s (.sign true sg)).1
    (step u extra kt s (.sign true sg)).2.failed = false ∧ evVerify kt s'.w s'.e sg.key = .ok () := by
  have hp : signPayload true s.e.claims = .ok b := hc ▸ (signPayload_ok_iff true c b).mpr ⟨fun _ => hval, henc⟩
  exact ⟨by simp only [step, evSign_ok true s.w s.e sg b hp hg hr]; rfl, evSign_verifies kt true s.w s.e sg b hp hg hr hkt halg⟩

/-- (v) Signing twice yields two tokens; each is the tag-18 envelope of its own message and the
    log holds a signature entry for each (so each verifies independently under its key). -/
theorem sign_logs_its_token (w : World) (e : Ev) (sg : Signer) (v : Bool) (tok : Bytes)
    (h : (evSign v w e sg).2.2 = .ok tok) :
    ∃ m p, (evSign v w e sg).2.1.msg = some m ∧ m.payload = some p ∧ tok = (envelopeTree m).enc ∧
      (sg.key, toBeSigned m.prot externalAAD p, m.sig) ∈ (evSign v w e sg).1.log ∧
      ∀ entry ∈ w.log, entry ∈ (evSign v w e sg).1.log := by
  rcases evSign_cases v w e sg with ⟨p, hp, hg, hr⟩ | ⟨m, r, heq, hr, _⟩
  · rw [evSign_ok v w e sg p hp hg hr] at h ⊢
    cases h
    exact ⟨_, p, rfl, rfl, rfl, List.mem_cons_self, fun _ he => List.mem_cons_of_mem _ he⟩
  · rw [heq] at h; cases h; cases hr

end Psa.Props.C19
