/-
  C04 — CBOR acceptance equals profile conformance; accepted values equal the wire.
  Property theorems, and the witness token `d7Token`.

  Status: the full biconditional is FALSE of the code (pre-finding D7 and the key-aliasing
  findings, /verif/known_findings.json): the CBOR library decodes null as "absent", simple
  values as integers, integer arrays as byte strings, and matches text / wrapped unsigned keys
  against integer claim keys.  This file proves (a) the ⇒ half that does hold — whatever is
  accepted satisfies every C01 rule, integer claims are within their width with no wrap-around
  and no float coercion, exact wire types decode to exactly the wire value, unknown keys are
  ignored —, (b) the negation of the full statement, by concrete witnesses for each
  leniency, (c) the ⇐ half at the exact wire types (`wire_token_accepted`) and (d) that the order of a token's entries
  is immaterial.  The differential run decides the rest against the independent wire oracle.
-/
import Psa.Model.Codec
import Psa.Proofs.RoundTrip
import Psa.Proofs.Perm
namespace Psa.Props.C04
open Psa Psa.Model Psa.Spec

/-- Whatever decode-and-validate accepts satisfies all of its profile's rules. -/
theorem accepted_is_conformant (u : Bytes → Dec Bytes) (extra : List Bytes) (bs : Bytes) (c : Claims)
    (h : decodeAndValidate u extra bs = .ok c) : Conformant c :=
  (Proofs.validate_iff_conformant c).mp ((Proofs.decodeAndValidate_ok_iff u extra bs c).mp h).2

/-- Integer claims: the decoded value is the integer on the wire, within the declared width —
    no wrap-around … -/
theorem int_no_wraparound (lo hi : Int) (hlo : lo ≤ 0) (hhi : 0 ≤ hi) (t : Cbor) (i : Int)
    (h : decIntRange lo hi t = .ok (some i)) :
    lo ≤ i ∧ i ≤ hi ∧
    (∀ n, t = .uint n → i = n) ∧ (∀ n, t = .nint n → i = -1 - (n : Int)) := by
  unfold decIntRange at h
  -- three arms can answer `.ok (some i)`: an unsigned item, a negative item, a simple value other than 20 … 23
  split at h <;> (try split at h) <;> cases h
  · exact ⟨by omega, ‹_›, fun _ e => by cases e; rfl, nofun⟩
  · exact ⟨‹_ ∧ _ ∧ _›.2.2, by omega, nofun, fun _ e => by cases e; rfl⟩
  · exact ⟨by omega, ‹_›, nofun, nofun⟩

/-- … and no float coercion: a floating-point item is never accepted for an integer claim. -/
theorem int_no_float (lo hi : Int) (b : Nat) :
    decIntRange lo hi (.f16 b) = .err ∧ decIntRange lo hi (.f32 b) = .err ∧ decIntRange lo hi (.f64 b) = .err := by
  simp [decIntRange]

/-- Out-of-width integers are rejected (e.g. 0x13000 for the 16-bit lifecycle). -/
theorem int_out_of_width (lo hi : Int) (n : Nat) (h : hi < n) : decIntRange lo hi (.uint n) = .err := by
  simp only [decIntRange]; split
  · omega
  · rfl

/-- Exact wire types decode to exactly the wire value. -/
theorem exact_types (b : Bytes) :
    decBytesVal (.bstr b) = .ok (some b) ∧ (validUTF8 b = true → decText (.tstr b) = .ok (some b)) := by
  simp [decBytesVal, decText]

/-- Wrong major types are rejected for byte-string and text claims (apart from the recorded
    leniencies: null/undefined, and integer arrays for byte strings). -/
theorem wrong_major_rejected (n : Nat) (b : Bytes) (kvs : List (Cbor × Cbor)) (xs : List Cbor) :
    decBytesVal (.uint n) = .err ∧ decBytesVal (.nint n) = .err ∧ decBytesVal (.tstr b) = .err ∧
    decBytesVal (.map kvs) = .err ∧ decBytesVal (.f64 n) = .err ∧
    decText (.uint n) = .err ∧ decText (.bstr b) = .err ∧ decText (.arr xs) = .err ∧ decText (.map kvs) = .err := by
  simp [decBytesVal, decText]

/-- Unknown extra keys are ignored: an entry whose (integer or text) key selects no field of the
    struct leaves the decoding state untouched. -/
theorem unknown_key_ignored {σ} (keys : List Int) (set : σ → Int → Cbor → Dec σ) (s : DState σ)
    (k v : Cbor) (hk : keyRes k ≠ .bad) (hs : selectField keys (keyRes k) = none) :
    structStep keys set s (k, v) = s := by
  rw [Proofs.Perm.structStep_eq, Proofs.Perm.sel_of_key keys v hk, hs]

/-- First occurrence wins: a second entry for a field already seen changes nothing. -/
theorem duplicate_key_ignored {σ} (keys : List Int) (set : σ → Int → Cbor → Dec σ) (s : DState σ)
    (k v : Cbor) (f : Int) (hs : selectField keys (keyRes k) = some f) (hk : keyRes k ≠ .bad)
    (hf : s.found.contains f = true) :
    structStep keys set s (k, v) = s := by
  rw [Proofs.Perm.structStep_eq, Proofs.Perm.sel_of_key keys v hk, hs]
  exact Proofs.Perm.put_of_mem set s f v (List.contains_iff_mem.mp hf)

/-! ### the negation of the full biconditional: one witness per recorded leniency -/

/-- null under an optional (here: any) claim key decodes as "absent" -/
theorem lenient_null_as_absent : decText Cbor.null = .ok none ∧ decBytesVal Cbor.null = .ok none ∧
    decIntRange 0 65535 Cbor.null = .ok none := by decide

/-- simple(5) under an integer claim decodes as 5 -/
theorem lenient_simple_as_int : decIntRange (-2147483648) 2147483647 (.simple 5) = .ok (some 5) := by decide

/-- an array of small integers under a byte-string claim decodes as those bytes -/
theorem lenient_array_as_bstr : decBytesVal (.arr [.uint 1, .uint 255, .simple 7, Cbor.null]) = .ok (some [1, 255, 7, 0]) := by
  decide

/-- the text key "2395" selects the lifecycle field of profile 2; the unsigned key 2^64-75000
    selects the profile field of profile 1 -/
theorem key_aliasing :
    selectField p2Keys (keyRes (.tstr (strBytes "2395"))) = some 2395 ∧
    selectField p1Keys (keyRes (.uint (2 ^ 64 - 75000))) = some (-75000) := by decide

/-- A complete counterexample at token level: a profile-1 token that carries the implementation
    id as an *array* of 32 integers and no byte string is accepted (decoded and valid). -/
def d7Token : Cbor := .map [
  (cInt (-75001), .uint 1), (cInt (-75002), .uint 0x3000),
  (cInt (-75003), .arr (List.replicate 32 (.uint 7))),
  (cInt (-75004), .bstr (List.replicate 32 2)),
  (cInt (-75007), .uint 1),
  (cInt (-75008), .bstr (List.replicate 32 3)),
  (cInt (-75009), .bstr (1 :: List.replicate 32 4))]

theorem accept_iff_conformant_negation :
    ∃ c, decodeClaimsTree (fun s => .ok s) [] d7Token = .ok c ∧ validate c = .ok () ∧
      c.implId = some (List.replicate 32 7) := by
  refine ⟨_, rfl, by decide, rfl⟩

/-- **the converse half, at the exact wire types**: the wire token of every conformant claims-set of a built-in profile
    (each claim present under its key with exactly the profile's CBOR type and value, valid-UTF-8 text) is accepted by
    the validating decoder, and what it returns reads back as exactly those values. Together with
    `accepted_is_conformant` this is acceptance ⇔ conformance on tokens free of the recorded leniencies. -/
theorem wire_token_accepted (u : Bytes → Dec Bytes) (extra : List Bytes) (c : Claims) (hv : validate c = .ok ())
    (hb : Proofs.ClaimsBounded c) (ht : Proofs.RT.TextOK c) (hbi : Proofs.RT.Builtin c) (hu : u p2Name = .ok p2Name) :
    ∃ c', decodeAndValidate u extra (Spec.wireToken c).enc = .ok c' ∧ ∀ g, Model.get g c' = Model.get g c := by
  obtain ⟨b, c', h1, h2, h3, h4, _⟩ := Proofs.RT.decode_encode_obs u extra c hv hb ht hbi hu
  cases h1.symm.trans (Proofs.encodeClaims_wire c hv)
  exact ⟨c', (Proofs.decodeAndValidate_ok_iff _ _ _ _).mpr ⟨h2, h4⟩, h3⟩

/-- **A CBOR map is a set of entries: the order in which a token lists its claims does not change what is decoded**
    (error, out-of-model verdict or claims-set alike). `KeysApart`: no two entries select the same field — in
    particular entries with pairwise distinct integer keys. -/
theorem entry_order_irrelevant (u : Bytes → Dec Bytes) (extra : List Bytes) (l₁ l₂ : List (Cbor × Cbor))
    (hp : l₁.Perm l₂) (hpw : l₁.Pairwise Proofs.Perm.KeysApart) :
    decodeClaimsTree u extra (.map l₁) = decodeClaimsTree u extra (.map l₂) :=
  Proofs.Perm.decodeClaimsTree_perm u extra l₁ l₂ hp hpw

/-- … stated on bytes, for the validating entry point -/
theorem entry_order_irrelevant_bytes (u : Bytes → Dec Bytes) (extra : List Bytes) (l₁ l₂ : List (Cbor × Cbor))
    (hp : l₁.Perm l₂) (hpw : l₁.Pairwise Proofs.Perm.KeysApart)
    (h₁ : Cbor.OkAt {} (.map l₁) 0) (h₂ : Cbor.OkAt {} (.map l₂) 0) :
    decodeAndValidate u extra (Cbor.enc (.map l₁)) = decodeAndValidate u extra (Cbor.enc (.map l₂)) := by
  unfold decodeAndValidate
  rw [Proofs.Perm.decodeClaims_perm u extra l₁ l₂ hp hpw h₁]

/-- … and for the entries of one software component -/
theorem component_entry_order_irrelevant (l₁ l₂ : List (Cbor × Cbor)) (hp : l₁.Perm l₂)
    (hpw : l₁.Pairwise Proofs.Perm.KeysApart) : decCompElem (.map l₁) = decCompElem (.map l₂) :=
  Proofs.Perm.decCompElem_perm l₁ l₂ hp hpw

/-- the hypothesis is met by entries with distinct integer keys (what every conformant token has) -/
theorem distinct_int_keys_apart (a b : Cbor × Cbor) (i j : Int) (ha : keyRes a.1 = .int i) (hb : keyRes b.1 = .int j)
    (hne : i ≠ j) : Proofs.Perm.KeysApart a b :=
  fun keys => Proofs.Perm.apart_of_int_keys keys a b i j ha hb hne

/-- non-vacuity: two claims of a profile-2 token in either order -/
example (u : Bytes → Dec Bytes) (v w : Cbor) :
    decodeClaimsTree u [] (.map [(.uint 2394, v), (.uint 2395, w)]) =
      decodeClaimsTree u [] (.map [(.uint 2395, w), (.uint 2394, v)]) :=
  entry_order_irrelevant u [] _ _ (List.Perm.swap _ _ _)
    (List.pairwise_pair.mpr (distinct_int_keys_apart _ _ 2394 2395 rfl rfl (by decide)))

end Psa.Props.C04
