/-
  C16 — Profile registry is append-only; every claims instance is independent.
  Property theorems, with the sample profiles of their examples.  The register is modelled as an association list in *arbitrary order* (Go's map
  iteration order is unspecified); histories are lists of register / NewClaims / decode operations.
  "Declares that profile": for CBOR, the profile claim equals the profile's name; for JSON, the document carries
  the profile's own profile member with a non-null value (see DESIGN.md §9.2 on this reading).
  Instance independence of the Go objects (no shared mutable state between results) has no counterpart in a
  value-semantics model: it is decided on the implementation by the harness (mutate one, read the others).
-/
import Psa.Proofs.Registry
import Psa.Tie.Facts.State
import Psa.Proofs.ProfileTag
import Psa.Proofs.Dispatch
namespace Psa.Props.C16
open Psa Psa.Model Psa.Model.Reg Psa.Proofs.Reg

theorem inv2 (a t : Bytes) (x : Entry) (h : a ≠ []) :
    RegInv [{ key := [], profName := a, jsonTag := t, entry := x }, { key := a, profName := a, jsonTag := t, entry := x }] where
  keysNodup := by simp [Ne.symm h]
  named := by simp
  hasDefault := rfl
  defaultNamed := by simp [lookup, h]
  coherent := by simp

/-- the register built by `init()` satisfies the invariant: profile 1 as above, then profile 2 registered -/
theorem builtin_inv : RegInv builtinRegistry := by
  obtain ⟨h1, h2, h3⟩ := Proofs.profileNames_distinct
  exact (inv2 p1Name jP1Profile .p1 h1).append ⟨p2Name, p2Name, jP2Profile, .p2⟩ rfl (by simp [lookup, Ne.symm h2, h3])

/-- **every reachable register satisfies the invariant** (keys distinct, entries coherent, default present) -/
theorem reachable_inv (ops : List Op) : RegInv (run builtinRegistry ops).1 :=
  run_inv ops _ builtin_inv

/-- **registering under an existing name fails, and so does a claims type with no identifiable profile field;
    either way all lookups are unchanged** -/
theorem failed_registration_changes_nothing (reg : Registry) (p : ProfDesc)
    (h : (lookup reg p.name).isSome ∨ p.jsonTag = none) :
    register reg p = .err eOther ∧ (step reg (.register p)).1 = reg ∧ (step reg (.register p)).2 = .err := by
  have he := h.elim (register_dup reg p) (register_notag reg p)
  have hs := step_register_fail reg p (by rw [he]; nofun)
  exact ⟨he, by rw [hs], by rw [hs]⟩

/-! ### which claims types have an identifiable profile field (`encoding.GetProfileJSONTag`, the walk registration runs) -/

/-- the JSON tag registration stores for a claims value described by `d`: what the walk finds, `none` on any error -/
def tagOfType (d : PTag.TDesc) : Option Bytes :=
  match PTag.getProfileJSONTag d with
  | .ok t => some (strBytes t)
  | _ => none

/-- **the walk returns a tag or an error for every value** — structs, pointers, nil pointers, interfaces holding
    values or pointers, at any embedding depth (since fix 0ef7c5d; `old_walk_panicked` below is the former behaviour) -/
theorem profile_tag_total (d : PTag.TDesc) : PTag.getProfileJSONTag d ≠ .panic := by
  unfold PTag.getProfileJSONTag
  split <;> exact Proofs.PTag.tag_total _

/-- **a claims type with no identifiable profile field is refused and nothing changes**: no own field with CBOR key
    265 / -75000 or named `Profile` without a `cbor` tag, and none in any embedded struct or in what an embedded
    interface holds -/
theorem no_profile_field_registration_fails (reg : Registry) (p : ProfDesc) (d : PTag.TDesc)
    (hp : p.jsonTag = tagOfType d) (h : PTag.hasProfile d = false) (h' : ∀ e, d = .ptr e → PTag.hasProfile e = false) :
    register reg p = .err eOther ∧ (step reg (.register p)).1 = reg ∧ (step reg (.register p)).2 = .err := by
  apply failed_registration_changes_nothing reg p
  right
  rw [hp, tagOfType, Proofs.PTag.get_noProfile d h h']

/-- the walk before the repair: a claims type whose embedded interface holds a *pointer* (what the populate helpers
    require) made `NumField` panic — found by this check, replayed on the implementation, repaired in /repo 0ef7c5d -/
theorem old_walk_panicked :
    PTag.tagOfOld (.struct (.cons ⟨"I", true, "I", .iface, none, none⟩
      (.ptr (.struct (.cons ⟨"P", false, "", .ptr, some "265", some "eat-profile"⟩ .other .nil))) .nil)) = .panic := by
  decide

-- non-vacuity: the same value through the repaired walk; a type without a profile field
example : PTag.getProfileJSONTag (.ptr (.struct (.cons ⟨"I", true, "I", .iface, none, none⟩
      (.ptr (.struct (.cons ⟨"P", false, "", .ptr, some "265", some "eat-profile"⟩ .other .nil))) .nil))) = .ok "eat-profile" := by
  decide
example : PTag.hasProfile (.struct (.cons ⟨"A", false, "", .ptr, some "1", some "a"⟩ .other .nil)) = false := by decide

/-- **append-only**: a successful registration only adds one entry at the end; nothing is removed or replaced -/
theorem registration_appends (reg r : Registry) (p : ProfDesc) (h : register reg p = .ok r) :
    ∃ e, r = reg ++ [e] ∧ e.key = p.name := by
  obtain ⟨t, _, _, rfl⟩ := register_ok reg r p h
  exact ⟨_, rfl, rfl⟩

/-- **a new profile changes `NewClaims` and CBOR decoding only for its own name** -/
theorem new_profile_frame_cbor (reg r : Registry) (p : ProfDesc) (h : register reg p = .ok r) (n : Bytes)
    (hn : n ≠ p.name) : newClaims r n = newClaims reg n ∧ dispatchCBOR r n = dispatchCBOR reg n := by
  obtain ⟨t, _, _, rfl⟩ := register_ok reg r p h
  unfold newClaims dispatchCBOR
  rw [lookup_append_ne _ _ _ hn.symm]
  exact ⟨rfl, rfl⟩

/-- **… and JSON decoding only for documents carrying its profile member** -/
theorem new_profile_frame_json (reg r : Registry) (p : ProfDesc) (h : register reg p = .ok r) (hi : RegInv reg)
    (ms : List (Bytes × Json)) (t : Bytes) (ht : p.jsonTag = some t) (hm : mentions ms t = false) :
    dispatchJSONOut r ms = dispatchJSONOut reg ms := by
  obtain ⟨t', ht', _, rfl⟩ := register_ok reg r p h
  cases ht.symm.trans ht'
  exact dispatchJSONOut_append reg _ ms hi.hasDefault hm

/-- **JSON dispatch gives the same outcome on every call regardless of registry iteration order**: for every
    reachable register and every reordering of it -/
theorem json_dispatch_order_free (ops : List Op) (r2 : Registry) (hp : (run builtinRegistry ops).1.Perm r2)
    (ms : List (Bytes × Json)) : dispatchJSONOut (run builtinRegistry ops).1 ms = dispatchJSONOut r2 ms :=
  json_dispatch_perm (reachable_inv ops) hp ms

/-- name lookups are order-free too -/
theorem lookup_order_free (ops : List Op) (r2 : Registry) (hp : (run builtinRegistry ops).1.Perm r2) (n : Bytes) :
    newClaims (run builtinRegistry ops).1 n = newClaims r2 n := by
  unfold newClaims
  rw [lookup_perm (reachable_inv ops).keysNodup hp]

/-- T2: in either package, the only code that writes a package-level variable is reachable from `RegisterProfile`
    and the package's `init` alone (regenerated fact; writers are named by the exported entry points that reach them,
    so that renaming an internal helper changes nothing) — registration is the only writer the model needs -/
theorem only_registration_writes :
    Generated.Facts.globalWriters = [("psatoken", "RegisterProfile+init", "profilesRegister")] :=
  Tie.Facts.globalWriters

-- non-vacuity: a history with a successful, a duplicate and a tag-less registration
def extA : ProfDesc := { name := strBytes "http://example.com/a", jsonTag := some jP2Profile, entry := .other }
def noTag : ProfDesc := { name := strBytes "http://example.com/b", jsonTag := none, entry := .other }
example : (run builtinRegistry [.register extA, .register extA, .register noTag, .newClaims extA.name]).2
    = [.ok, .err, .err, .impl (some .other)] := by decide

end Psa.Props.C16
