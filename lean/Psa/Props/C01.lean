/-
  C01 — Validate() accepts a claims-set iff it satisfies its profile's rules.
  Property theorems, and the sample claims-set (`sampleP2`) that the examples here and in C09, C10, C12 use.
  Quantifier: every `Claims` value of either profile —
  all byte-string lengths, all lifecycle values, all strings, component lists of
  any length with nil elements allowed; no bound anywhere.
-/
import Psa.Proofs.Validate
namespace Psa.Props.C01
open Psa Psa.Model Psa.Spec Psa.Proofs

/-- Validation succeeds exactly when the claims-set is conformant. -/
theorem validate_iff_conformant (c : Claims) : validate c = .ok () ↔ Conformant c :=
  Proofs.validate_iff_conformant c

/-- The verdict does not depend on the order in which `ValidateClaims` walks the
    getters, nor on repetitions: any list containing all ten gives the same verdict.
    (This is what makes the tie to the source a *coverage* obligation only.) -/
theorem validate_order_irrelevant (c : Claims) (o : List Getter) (h : ∀ g, g ∈ o) :
    validateWith o c = .ok () ↔ Conformant c :=
  validateWith_iff_conformant o c h

-- non-vacuity: a concrete conformant profile-2 claims-set (so both directions of the iff are inhabited)
def sampleComp : SwComp :=
  { mtype := none, mval := some (List.replicate 32 0), version := none, signer := some (List.replicate 48 7), mdesc := none }
def sampleP2 : Claims :=
  { prof := .p2, canonical := p2Name, profile := some (.str p2Name), clientId := some (-3),
    lifecycle := some 0x3000, implId := some (List.replicate 32 1), bootSeed := some (List.replicate 8 2),
    certRef := none, sw := .cont (some [some sampleComp]), noSw := none,
    nonce := some [List.replicate 64 3], instId := some (1 :: List.replicate 32 4), vsi := none }
theorem sampleP2_valid : validate sampleP2 = .ok () := by decide
example : validate sampleP2 = .ok () := sampleP2_valid
example : validate { sampleP2 with bootSeed := some (List.replicate 7 2) } = .err eWrongSyntax := by decide


/-- a claims-set that is wrong in claim `g` only -/
def breakOne : Getter → Claims
  | .profile => { sampleP2 with profile := none }
  | .clientId => { sampleP2 with clientId := none }
  | .lifecycle => { sampleP2 with lifecycle := some 0x1100 }
  | .implId => { sampleP2 with implId := some (List.replicate 31 1) }
  | .bootSeed => { sampleP2 with bootSeed := some (List.replicate 7 2) }
  | .certRef => { sampleP2 with certRef := some [49] }
  | .sw => { sampleP2 with sw := .cont none }
  | .nonce => { sampleP2 with nonce := none }
  | .instId => { sampleP2 with instId := some (0 :: List.replicate 32 4) }
  | .vsi => { sampleP2 with vsi := some [] }

/-- Dropping any one getter from the walk lets a non-conformant claims-set through:
    coverage of all ten getters is necessary, not only sufficient. -/
theorem validate_needs_every_getter (g : Getter) :
    ∃ c, ¬ Conformant c ∧ validateWith (Getter.all.filter (· ≠ g)) c = .ok () := by
  refine ⟨breakOne g, ?_, ?_⟩
  · rw [← validate_iff_conformant]; cases g <;> decide
  · cases g <;> decide

/-- After a successful validation every mandatory getter succeeds with a conformant
    value, and every optional getter returns a conformant value or the
    missing-optional error. -/
theorem getters_after_validate (c : Claims) (h : validate c = .ok ()) (g : Getter) :
    (Mandatory c.prof g = true → ∃ v, Model.get g c = .ok v ∧ ConformantVal c.prof c.canonical g v) ∧
    (Mandatory c.prof g = false →
      (∃ v, Model.get g c = .ok v ∧ ConformantVal c.prof c.canonical g v) ∨
      Model.get g c = .err eMissingOptional) := by
  have hp : Pass g c := (validateWith_ok_iff _ _).mp h g (mem_validateOrder g)
  rcases pass_cases g c hp with ⟨v, hv⟩ | ⟨hm, he⟩
  · exact ⟨fun _ => ⟨v, hv, get_ok_conformant g c v hv⟩, fun _ => Or.inl ⟨v, hv, get_ok_conformant g c v hv⟩⟩
  · exact ⟨(fun hm' => by rw [hm] at hm'; cases hm'), fun _ => Or.inr he⟩

/-- A getter never returns a non-conformant value, validated or not. -/
theorem getter_values_conformant (g : Getter) (c : Claims) (v : Val) (h : Model.get g c = .ok v) :
    ConformantVal c.prof c.canonical g v := get_ok_conformant g c v h

/-- The verdict is one of: accepted, or rejected with an error — validation never panics,
    nil component entries included (fix 41aaac8). -/
theorem validate_total (c : Claims) : ∀ s, validate c ≠ .panic s :=
  noPanic_validateWith _ c

end Psa.Props.C01
