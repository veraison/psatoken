/-
  C17 — Read-side API is safe for concurrent use.
  Property theorems, and the system they are about (`Shared`, `COp`, `cstep`, `sys`).  What the theorem is about: an interleaving semantics of *whole operations* (any schedule of
  any number of threads) over shared claims-sets and shared evidence plus per-thread private objects.  Whether an
  operation can write the shared objects is derived from the regenerated method facts (the same obligation as C18),
  and that no function besides registration writes package-level state is the regenerated `globalWriters` fact.
  What it cannot be about: data races of the Go memory model *inside* one operation and shared state inside the
  third-party packages — the race detector samples those (level: partial).
-/
import Psa.Model.Concurrent
import Psa.Props.C18
namespace Psa.Props.C17
open Psa Psa.Model Psa.Model.Conc Psa.Model.Read

/-- what all threads share: claims-sets and decoded evidence (plus, implicitly, the register and codec modes, which no
    operation below can write — `only_registration_writes`) -/
structure Shared where
  claims : List Claims
  evs : List Ev
  deriving Repr

inductive COp
  /-- a read-side operation on shared claims-set `i` -/
  | readShared (i : Nat) (op : ROp)
  /-- verification / accessors / export on shared evidence `i` -/
  | readEv (i : Nat) (op : EOp)
  /-- a read-side operation on the thread's own object `i` -/
  | readOwn (i : Nat) (op : ROp)
  /-- create a claims-set of a profile (NewClaims / decode produce a fresh value) -/
  | create (c : Claims)

inductive COut
  | r (o : Option ROut)
  | v (o : Option (Outcome Unit))
  | unit

def setAt {α} (l : List α) (i : Nat) (a : α) : List α := l.set i a

/-- the step the Go code implements, as far as the method facts `ms` say: an operation on a shared object writes back
    whatever the method leaves in the object it was called on (`havoc`, any function: what a read-side method of
    Evidence that wrote its receiver would leave behind, see `Read.estep`) -/
def cstep (ms : List MethodFact) (kt : KeyTable) (w : World) (havoc : Ev → Ev) (sh : Shared) (own : List Claims) :
    COp → Shared × List Claims × COut
  | .readShared i op =>
    match sh.claims[i]? with
    | none => (sh, own, .r none)
    | some c => let (c', o) := Read.step ms c op; ({ sh with claims := setAt sh.claims i c' }, own, .r (some o))
  | .readEv i op =>
    match sh.evs[i]? with
    | none => (sh, own, .v none)
    | some e => let (e', o) := Read.estep ms kt w havoc e op; ({ sh with evs := setAt sh.evs i e' }, own, .v (some o))
  | .readOwn i op =>
    match own[i]? with
    | none => (sh, own, .r none)
    | some c => let (c', o) := Read.step ms c op; (sh, setAt own i c', .r (some o))
  | .create c => (sh, own ++ [c], .unit)

def sys (kt : KeyTable) (w : World) (havoc : Ev → Ev) : Sys Shared (List Claims) COp COut :=
  { step := cstep Generated.Facts.methods kt w havoc }

theorem set_same {α} (l : List α) (i : Nat) (a : α) (h : l[i]? = some a) : setAt l i a = l := by
  obtain ⟨hi, rfl⟩ := List.getElem?_eq_some_iff.mp h
  exact List.set_getElem_self hi

/-- **with the method facts of this run, no read-side operation changes what the threads share** -/
theorem read_side_read_only (kt : KeyTable) (w : World) (havoc : Ev → Ev) : ReadOnly (sys kt w havoc) := by
  intro sh own op
  cases op with
  | readShared i rop =>
    simp only [sys, cstep]
    cases hc : sh.claims[i]? with
    | none => rfl
    | some c =>
      dsimp only
      rw [C18.read_pure c rop, set_same _ _ _ hc]
  | readEv i eop =>
    simp only [sys, cstep]
    cases hc : sh.evs[i]? with
    | none => rfl
    | some e =>
      dsimp only
      rw [C18.evidence_read_pure kt w havoc e eop, set_same _ _ _ hc]
  | readOwn i rop =>
    simp only [sys, cstep]
    cases own[i]? <;> rfl
  | create c => rfl

/-- **for every schedule of every number of threads, the shared objects end up as they started** -/
theorem shared_unchanged (kt : KeyTable) (w : World) (havoc : Ev → Ev) (σ : List Nat) (sh : Shared)
    (L : Nat → List Claims) (P : Nat → List COp) : (runSched (sys kt w havoc) σ sh L P).1 = sh :=
  Conc.shared_unchanged _ (read_side_read_only kt w havoc) σ sh L P

/-- **each thread's results under any interleaving are its results when run alone, sequentially** -/
theorem results_as_sequential (kt : KeyTable) (w : World) (havoc : Ev → Ev) (t : Nat) (σ : List Nat) (sh : Shared)
    (L : Nat → List Claims) (P : Nat → List COp) (hfair : (P t).length ≤ σ.count t) :
    outputsOf t (runSched (sys kt w havoc) σ sh L P).2 = seqRun (sys kt w havoc) sh (L t) (P t) :=
  interleaving_eq_sequential _ (read_side_read_only kt w havoc) t σ sh L P hfair

/-- two complete schedules of the same programs give every thread the same results -/
theorem schedules_agree (kt : KeyTable) (w : World) (havoc : Ev → Ev) (t : Nat) (σ₁ σ₂ : List Nat) (sh : Shared)
    (L : Nat → List Claims) (P : Nat → List COp) (h1 : (P t).length ≤ σ₁.count t) (h2 : (P t).length ≤ σ₂.count t) :
    outputsOf t (runSched (sys kt w havoc) σ₁ sh L P).2 = outputsOf t (runSched (sys kt w havoc) σ₂ sh L P).2 := by
  rw [results_as_sequential kt w havoc t σ₁ sh L P h1, results_as_sequential kt w havoc t σ₂ sh L P h2]

/-- T2: no function of either package besides registration assigns package-level state — the codec modes and the
    register are read-only while read-side operations run -/
theorem only_registration_writes :
    Generated.Facts.globalWriters = [("psatoken", "RegisterProfile+init", "profilesRegister")] :=
  Tie.Facts.globalWriters

-- non-vacuity: a schedule of two threads reading one shared claims-set and creating their own
example : (runSched (sys (fun _ _ => true) World.empty id) [0, 1, 1, 0] { claims := [Claims.new .p1], evs := [] }
    (fun _ => []) (fun _ => [.readShared 0 .validate, .create (Claims.new .p2)])).2.length = 4 := by decide

end Psa.Props.C17
