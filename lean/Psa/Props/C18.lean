/-
  C18 — Reading, validating, encoding and verifying do not change anything.
  Property theorems, and the list of read-side operations (`allOps`).  The step function decides from the *regenerated method facts* whether a Go method can
  change the caller's object; `facts_read_only` is the obligation that fails when a read-side method starts to
  assign through a pointer receiver, to write through a field, or to call a mutating method on a field.
  The no-retained-reference clause (overwriting the input buffer) has no counterpart in a value-semantics model:
  it is decided on the implementation by the harness (reachable-memory walk + overwrite + re-read).
-/
import Psa.Model.ReadSide
import Psa.Generated.Facts
import Psa.Tie.Facts.State
namespace Psa.Props.C18
open Psa Psa.Model Psa.Model.Read

def allOps : List ROp :=
  [.validate, .encCbor, .encJson, .get .profile, .get .clientId, .get .lifecycle, .get .implId, .get .bootSeed,
   .get .certRef, .get .sw, .get .nonce, .get .instId, .get .vsi]

theorem allOps_complete (op : ROp) : op ∈ allOps := by
  cases op with
  | get g => cases g <;> decide
  | _ => decide

/-- **T2 obligation**: per the code regenerated from /repo on this run, no method that a read-side operation runs on a
    claims object can change the caller's object — value receivers may assign their own copy only, nothing is written
    through a field, and only read-only methods are invoked on fields (a sweep over the method table, evaluated by the
    kernel alone: see `Psa/Tie/Facts/State.lean`) -/
theorem facts_read_only_table :
    (allOps.all fun op => [Prof.p1, Prof.p2].all fun p =>
      !(methodsOf p op).any (writesCaller Generated.Facts.methods (recvOf p))) = true := by decide +kernel

theorem facts_read_only (p : Prof) (op : ROp) (hop : op ∈ allOps) :
    (methodsOf p op).any (writesCaller Generated.Facts.methods (recvOf p)) = false := by
  have h := facts_read_only_table
  simp only [List.all_eq_true, Bool.not_eq_true'] at h
  exact h op hop p (by cases p <;> simp)

/-- … and the same for the read-side methods of Evidence -/
theorem facts_evidence_read_only : ∀ op : EOp, writesCaller Generated.Facts.methods "Evidence" (eMethod op) = false := by
  intro op; cases op <;> simp only [eMethod] <;> decide +kernel

theorem step_eq (c : Claims) (op : ROp) : step Generated.Facts.methods c op = (c, eval c op) := by
  unfold step
  rw [facts_read_only c.prof op (allOps_complete op)]
  rfl

/-- **a read-side operation leaves the claims-set unchanged** — every claims-set, valid or not -/
theorem read_pure (c : Claims) (op : ROp) : (step Generated.Facts.methods c op).1 = c := by
  rw [step_eq]

/-- **any sequence of read-side operations leaves it unchanged, and every operation returns what it returns on the
    original object** — so repeating an operation gives the same result, and encoding is deterministic -/
theorem reads_pure : ∀ (ops : List ROp) (c : Claims),
    (run Generated.Facts.methods c ops).1 = c ∧ (run Generated.Facts.methods c ops).2 = ops.map (eval c)
  | [], c => ⟨rfl, rfl⟩
  | op :: ops, c => by
    simp only [run, step_eq]
    exact ⟨(reads_pure ops c).1, by rw [(reads_pure ops c).2]; rfl⟩

/-- repeating an operation right after itself returns the same result -/
theorem read_repeatable (c : Claims) (op : ROp) :
    (run Generated.Facts.methods c [op, op]).2 = [eval c op, eval c op] :=
  (reads_pure [op, op] c).2

/-- verification, the identity accessors and JSON export leave the Evidence unchanged, whatever they return -/
theorem evidence_read_pure (kt : KeyTable) (w : World) (havoc : Ev → Ev) (e : Ev) (op : EOp) :
    (estep Generated.Facts.methods kt w havoc e op).1 = e := by
  unfold estep
  simp [facts_evidence_read_only op]

/-- what profile 1's marshallers do to *their copy* is invisible in the bytes: encoding the normalised copy gives
    the same result (so a value receiver loses nothing) -/
theorem marshal_copy_invisible (c : Claims) :
    encodeClaims (bodyEffect c .encCbor) = encodeClaims c ∧ encodeJSON (bodyEffect c .encJson) = encodeJSON c := by
  obtain ⟨prof, canonical, profile, clientId, lifecycle, implId, bootSeed, certRef, sw, noSw, nonce, instId, vsi⟩ := c
  cases prof
  · rcases sw with _ | _ | _ | _ <;> exact ⟨rfl, rfl⟩
  · exact ⟨rfl, rfl⟩

/-- a method that *did* assign through a pointer receiver would be visible: the theorem is not vacuous in its
    dependence on the facts -/
example : writesCaller [{ recv := "P1Claims", name := "MarshalCBOR", pointer := true, assigns := ["SwComponents"],
                          deep := [], calls := ["SwComponents.IsEmpty"] }] "P1Claims" "MarshalCBOR" = true := by decide
example : writesCaller [{ recv := "Evidence", name := "Verify", pointer := true, assigns := ["message"],
                          deep := [], calls := ["message.Verify"] }] "Evidence" "Verify" = true := by decide

end Psa.Props.C18
