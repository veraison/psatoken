/-
  C10 — Emitted CBOR is exactly the profile's wire format.
  Property theorems only.  Quantifier: every valid claims-set of either profile in any
  representation state (built by setters or by decoding: nil interface / empty container /
  nil slice component fields, any optional subset, any sizes) — no bound.
  `ClaimsBounded` states what is true of every Go value (int32 / uint16 / uint ranges, slice
  lengths below 2⁶⁴) plus the CBOR library's own array limit; it is needed only for the
  "is a single definite-length item with nothing after it" clause, which goes through the
  verified decoder.
-/
import Psa.Proofs.Wire
import Psa.Props.C01
namespace Psa.Props.C10
open Psa Psa.Model Psa.Spec Psa.Proofs

/-- The CBOR produced for a valid claims-set is the profile's wire token: one map holding, in
    the profile's key order, exactly one entry per claim that is set — integer key, the
    profile's CBOR type, the exact value; absent optional claims are omitted, not null. -/
theorem encode_is_wire_token (c : Claims) (hv : validate c = .ok ()) :
    claimsToCbor c = .ok (wireToken c) ∧ encodeClaims c = .ok (wireToken c).enc :=
  ⟨encode_wire c hv, encodeClaims_wire c hv⟩

/-- The keys are precisely the profile's integer keys of the claims that are set … -/
theorem wire_keys (c : Claims) :
    (wireEntries c).map Prod.fst = ((keyOrder c.prof).filter fun k => (wireVal c k).isSome).map cInt :=
  entriesOf_keys _ _

/-- … each at most once (no duplicate keys) … -/
theorem wire_keys_nodup (c : Claims) : ((wireEntries c).map Prod.fst).Nodup :=
  entriesOf_keys_nodup _ _ (keyOrder_nodup c.prof)

/-- … and an entry is present iff its claim is set, carrying exactly that claim's value. -/
theorem wire_entry_iff (c : Claims) (k v : Cbor) :
    (k, v) ∈ wireEntries c ↔ ∃ i ∈ keyOrder c.prof, k = cInt i ∧ wireVal c i = some v :=
  entriesOf_mem

/-- The profile key sets the property spells out. -/
theorem key_sets :
    keyOrder .p1 = [-75000, -75001, -75002, -75003, -75004, -75005, -75006, -75007, -75008, -75009, -75010] ∧
    keyOrder .p2 = [265, 2394, 2395, 2396, 2397, 2398, 2399, 10, 256, 2400] ∧
    compKeyOrder = [1, 2, 4, 5, 6] := ⟨rfl, rfl, rfl⟩

/-- No value in the token is null / undefined (nor any other simple value or float): every
    value has the CBOR type of its claim.  (Top level; component maps: `comp_no_null`.) -/
theorem wire_no_null (c : Claims) (k v : Cbor) (h : (k, v) ∈ wireEntries c) :
    (∃ s, v = .tstr s) ∨ (∃ b, v = .bstr b) ∨ (∃ n, v = .uint n) ∨ (∃ n, v = .nint n) ∨ (∃ xs, v = .arr xs) := by
  obtain ⟨i, hi, _, hv⟩ := (wire_entry_iff c k v).mp h
  cases wireVal_kind c i hi v hv with
  | text s _ hv => exact Or.inl ⟨s, hv⟩
  | bytes b _ hv => exact Or.inr (Or.inl ⟨b, hv⟩)
  | int x _ hv =>
    rcases cInt_cases x with ⟨n, _, e⟩ | ⟨n, _, e⟩
    · exact Or.inr (Or.inr (Or.inl ⟨n, hv.trans e⟩))
    · exact Or.inr (Or.inr (Or.inr (Or.inl ⟨n, hv.trans e⟩)))
  | uint n _ hv => exact Or.inr (Or.inr (Or.inl ⟨n, hv⟩))
  | comps hv => exact Or.inr (Or.inr (Or.inr (Or.inr ⟨_, hv⟩)))
  | nonces l _ hv => exact Or.inr (Or.inr (Or.inr (Or.inr ⟨_, hv⟩)))

/-- Components: maps over {1,2,4,5,6}, a key present iff its field is set (the types, text for 1/4/6 and byte strings
    for 2/5, are `comp_no_null`). -/
theorem comp_entry_iff (sc : SwComp) (k v : Cbor) :
    (k, v) ∈ entriesOf compKeyOrder (compWireVal sc) ↔ ∃ i ∈ compKeyOrder, k = cInt i ∧ compWireVal sc i = some v :=
  entriesOf_mem

theorem comp_no_null (sc : SwComp) (i : Int) (v : Cbor) (h : compWireVal sc i = some v) :
    (∃ s, v = .tstr s) ∨ (∃ b, v = .bstr b) := by
  rcases compWireVal_kind sc i v h with ⟨s, _, hv⟩ | ⟨b, _, hv⟩
  · exact Or.inl ⟨s, hv⟩
  · exact Or.inr ⟨b, hv⟩

/-- A single nonce is a bare byte string. -/
theorem single_nonce_bare (c : Claims) (hv : validate c = .ok ()) :
    ∃ b, wireVal c (match c.prof with | .p1 => -75008 | .p2 => 10) = some (.bstr b) := by
  obtain ⟨n, hn, _⟩ := (conformant_iff_all c).mp ((C01.validate_iff_conformant c).mp hv) .nonce
  cases hp : c.prof
  · exact ⟨n, by rw [RT.wv1_8 c hp, hn]; rfl⟩
  · exact ⟨n, by rw [RT.wv2_7 c hp, hn]; rfl⟩

/-- Profile 1 never emits both the component list and the no-measurements flag. -/
theorem p1_never_both (c : Claims) (hp : c.prof = .p1) (hv : validate c = .ok ()) :
    ¬ ((wireVal c (-75006)).isSome ∧ (wireVal c (-75007)).isSome) := by
  have h7 := (conformant_iff_all c).mp ((C01.validate_iff_conformant c).mp hv) .sw
  rw [ClaimOK, hp] at h7
  rw [RT.wv1_6 c hp, RT.wv1_7 c hp]
  rcases h7 with ⟨_, hns⟩ | ⟨hnc, _⟩
  · rw [hns]; exact fun h => Bool.false_ne_true h.2
  · rw [show c.sw.elems = [] from hnc]; exact fun h => Bool.false_ne_true h.1

/-- The emitted bytes are a single definite-length well-formed item with nothing after it:
    the (verified) decoder reads them back as exactly the wire token. -/
theorem nothing_follows (c : Claims) (hv : validate c = .ok ()) (hb : ClaimsBounded c) :
    ∃ b, encodeClaims c = .ok b ∧ Cbor.decodeAll {} b = some (wireToken c) ∧
      ∀ extra, extra ≠ [] → Cbor.decodeAll {} (b ++ extra) = none :=
  ⟨_, (encode_is_wire_token c hv).2, Cbor.decodeAll_enc {} _ (okAt_wireToken c hb),
    fun extra => Cbor.decodeAll_enc_append {} _ extra (okAt_wireToken c hb)⟩

-- non-vacuity: the sample claims-set of C01 is valid
example : validate C01.sampleP2 = .ok () := C01.sampleP2_valid

end Psa.Props.C10
