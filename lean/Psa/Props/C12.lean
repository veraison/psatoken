/-
  C12 — JSON round-trips and is equivalent to the CBOR form.
  Property theorems only.  The claims-level theorems are about JSON trees; the `json_text_*` theorems at the end
  carry them down to bytes: the text `json.Marshal` emits for a tree (`JText.render`, modelled after `appendString`
  with HTML escaping) reads back, through the model of Go's reader (`JText.parseDoc`), to the same tree.  Both
  functions are tied to encoding/json by ops `jrender` / `jtext`; the library's own output goes through `jtext`.
-/
import Psa.Tie.Facts.Fields
import Psa.Props.C01
import Psa.Proofs.JsonRoundTrip
import Psa.Proofs.JsonText
import Psa.Proofs.JsonTextClaims
namespace Psa.Props.C12
open Psa Psa.Model Psa.Spec Psa.Proofs

/-- base64 (standard, padded): decoding the encoding of any byte string returns it. -/
theorem b64_roundtrip (b : Bytes) : b64dec (b64enc b) = some b := Proofs.b64_roundtrip b

/-- hence a byte-string claim written to JSON reads back exactly -/
theorem bytes_json_roundtrip (b : Bytes) : jDecBytes (jBytes b) = .ok (some b) := JRT.jDecBytes_jBytes b

/-- JSON uses the documented member names, base64 strings for byte strings, numbers for
    integers, and has one member per claim that is set — absent optional claims are omitted. -/
theorem json_shape (c : Claims) (hv : validate c = .ok ()) : encodeJSON c = .ok (jsonDoc c) :=
  encode_json c hv

/-- a member is present iff its claim is set, and carries exactly that claim's value -/
theorem json_member_iff (c : Claims) (n : Bytes) (v : Json) :
    (n, v) ∈ jsonMembers c ↔ ∃ f ∈ JField.of c.prof, n = f.name c.prof ∧ jsonVal c f = some v :=
  mem_membersOf (fields := JField.of c.prof) (name := JField.name c.prof) (val := jsonVal c)

/-- member names are pairwise distinct (no duplicate members) -/
theorem json_names_distinct : ((JField.of .p1).map (JField.name .p1)).Nodup ∧
    ((JField.of .p2).map (JField.name .p2)).Nodup ∧ (CField.all.map CField.name).Nodup :=
  ⟨JRT.p1_names_good.nodup, JRT.p2_names_good.nodup, JRT.comp_names_good.nodup⟩

/-- The member names of the spec are the `json` struct tags read off /repo on this run. -/
theorem names_are_the_struct_tags :
    (Generated.Facts.fieldsP1Claims.filter (fun f => !f.jsonSkip)).map (fun f => strBytes f.jsonName) =
      (JField.of .p1).map (JField.name .p1) ∧
    (Generated.Facts.fieldsP2Claims.filter (fun f => !f.jsonSkip)).map (fun f => strBytes f.jsonName) =
      (JField.of .p2).map (JField.name .p2) ∧
    Generated.Facts.fieldsSwComponent.map (fun f => strBytes f.jsonName) = CField.all.map CField.name :=
  ⟨rfl, rfl, rfl⟩

/-- The dispatching decoder on a document without any profile member (or a null one) uses the
    default entry — profile 1 (the repaired behaviour, fix 222f410). -/
theorem json_no_profile_is_default (u : Bytes → Dec Bytes) (ms : List (Bytes × Json))
    (hc : namesClean ms = true) (h1 : lookupMember ms jP1Profile = none ∨ lookupMember ms jP1Profile = some .null)
    (h2 : lookupMember ms jP2Profile = none ∨ lookupMember ms jP2Profile = some .null) :
    decodeClaimsJSON u builtinRegistry (.obj ms) = unmarshalJSONInto u (Claims.new .p1) (.obj ms) :=
  JRT.decodeClaimsJSON_default u ms hc h1 h2

-- non-vacuity
example : b64enc [1, 2, 3, 4] = strBytes "AQIDBA==" := by decide
example : validate C01.sampleP2 = .ok () := C01.sampleP2_valid

/-- **decoding its own JSON encoding yields the claims-set again** (tree level; the dispatcher included): for every valid
    claims-set of a built-in profile, up to the container holding the components -/
theorem json_decode_encode (u : Bytes → Dec Bytes) (c : Claims) (hv : validate c = .ok ()) (hb : Proofs.ClaimsBounded c)
    (hbi : Proofs.RT.Builtin c) (hu : u p2Name = .ok p2Name) :
    ∃ j, encodeJSON c = .ok j ∧ decodeClaimsJSON u builtinRegistry j = .ok (Proofs.RT.rt c) :=
  Proofs.JRT.json_decode_encode u c hv hb hbi hu

/-- **CBOR → claims → JSON → claims → CBOR reproduces the original bytes**, with identical getter results on the way -/
theorem cbor_json_cbor (u : Bytes → Dec Bytes) (extra : List Bytes) (c : Claims) (hv : validate c = .ok ())
    (hb : Proofs.ClaimsBounded c) (ht : Proofs.RT.TextOK c) (hbi : Proofs.RT.Builtin c) (hu : u p2Name = .ok p2Name) :
    ∃ b c1 j c2, encodeClaims c = .ok b ∧ decodeClaims u extra b = .ok c1 ∧ encodeJSON c1 = .ok j ∧
      decodeClaimsJSON u builtinRegistry j = .ok c2 ∧ encodeClaims c2 = .ok b ∧ ∀ g, Model.get g c2 = Model.get g c :=
  Proofs.JRT.cbor_json_cbor u extra c hv hb ht hbi hu

/-! ### the text layer -/

/-- **a string reads back from its JSON literal**: for every valid UTF-8 string — quotes, backslashes, control
    characters, `<`, `>`, `&`, U+2028 / U+2029 and every multi-byte sequence included — the reader applied to the
    writer's literal (and whatever follows the closing quote) returns the string and what follows -/
theorem json_text_string_roundtrip (s : Bytes) (hs : validUTF8 s = true) (tail : Bytes) (f : Nat)
    (hf : (JText.renderBody s).length < f) :
    JText.parseBody f (JText.renderBody s ++ 0x22 :: tail) = some (s, tail) :=
  JText.parseBody_renderBody s hs tail f hf

/-- **an integer of any size and sign reads back from its decimal text** (followed by nothing or by a delimiter) -/
theorem json_text_int_roundtrip (i : Int) (rest : Bytes) (hr : JText.NumEnd rest) :
    JText.parseNumber (JText.renderInt i ++ rest) = some (.int i, rest) :=
  JText.parseNumber_renderInt i rest hr

/-- **a document reads back from its text**: every tree with integer numbers and valid UTF-8 strings and member
    names, of any size and nesting -/
theorem json_text_roundtrip (j : Json) (hw : JText.WF j = true) : JText.parseDoc (JText.render j) = some j :=
  JText.parseDoc_render j hw

/-- **whitespace around a document is immaterial**: with any run of space / tab / CR / LF before and after it, the
    rendered document reads back to the same tree -/
theorem json_text_whitespace (j : Json) (hw : JText.WF j = true) (pre post : Bytes)
    (h1 : JText.AllWs pre) (h2 : JText.AllWs post) : JText.parseDoc (pre ++ (JText.render j ++ post)) = some j :=
  JText.parseDoc_ws_render_ws j hw pre post h1 h2

/-- **byte level, claims**: for every valid claims-set of a built-in profile whose text claims are valid UTF-8, the JSON
    *text* of its encoding (`render`) reads back (`parseDoc`) to the encoded document, and that document decodes
    through the dispatching decoder to the claims-set (up to the container holding the components) -/
theorem json_bytes_decode_encode (u : Bytes → Dec Bytes) (c : Claims) (hv : validate c = .ok ()) (hb : Proofs.ClaimsBounded c)
    (hbi : Proofs.RT.Builtin c) (hu : u p2Name = .ok p2Name) (ht : Proofs.RT.TextOK c) :
    ∃ j, encodeJSON c = .ok j ∧ JText.parseDoc (JText.render j) = some j ∧
      decodeClaimsJSON u builtinRegistry j = .ok (Proofs.RT.rt c) :=
  have hc := (validate_iff_conformant c).mp hv
  ⟨jsonDoc c, encode_json c hv, JTC.parseDoc_render_jsonDoc c ht,
    (JRT.decodeClaimsJSON_jsonDoc u c hc hbi).trans (JRT.unmarshalJSONInto_jsonDoc u c hc hb hbi hu)⟩

/-- the documented JSON form of a claims-set with valid UTF-8 text is within the writer's domain: integer numbers,
    ASCII member names, base64 strings, valid UTF-8 text -/
theorem json_doc_in_text_domain (c : Claims) (ht : Proofs.RT.TextOK c) : JText.WF (jsonDoc c) = true :=
  Proofs.JTC.wf_jsonDoc c ht

-- non-vacuity: a document with an escape of each kind
example : JText.WF (.obj [(strBytes "a<b", .arr [.int (-12), .str [0x22, 0x5C, 0x0A, 0x01, 0xE2, 0x80, 0xA8, 0xC3, 0xA9], .null])]) = true := by
  decide
example : JText.parseBody 100 (strBytes "\\u00e9\\ud83d\\ude00\\n\"x") =
    some ([0xC3, 0xA9, 0xF0, 0x9F, 0x98, 0x80, 0x0A], strBytes "x") := by
  decide

end Psa.Props.C12
