/-
  C15 — Embedding-aware codec merges, round-trips and matches the plain codec.
  Property theorems only (CBOR side of psatoken/encoding; helper lemmas in Psa/Proofs/Enc*.lean).
  Quantifiers: every struct shape (any nesting of embedded structs, any number of fields below 2³²),
  every value of it (every subset of optional fields, every typed field value), every entry count.
  The JSON side is modelled at the level of JSON trees (Psa/Model/EncodingJson.lean) and, for the two hand-written
  loops behind `FromJSON`, of token streams (Psa/Model/JsonTokens.lean): theorems `json_*` below.
-/
import Psa.Proofs.EncRoundTrip
import Psa.Tie.Encoding
import Psa.Proofs.EncJson
import Psa.Proofs.JsonTokens
namespace Psa.Props.C15
open Psa Psa.Model Psa.Model.Enc Psa.Proofs.Enc

/-- **correct length header for any number of entries** — stated about the code regenerated from /repo on
    this run: the header `ToCBOR` writes for `n` entries is a map header that the package's own reader
    (`processAdditionalInfo`, also regenerated) turns back into exactly `n`, leaving exactly the bytes that
    followed; it is never the indefinite-length marker. All four widths, every `n < 2³²`. -/
theorem header_roundtrip (n : Nat) (hn : n < 2 ^ 32) (rest : Bytes) :
    ∃ b tl, Generated.toCBORHeader n = b :: tl ∧ b.toNat / 32 = 5 ∧ b.toNat % 32 ≠ 31 ∧
      Generated.processAdditionalInfo (b.toNat % 32) (tl ++ rest) = .ok (n, rest) := by
  obtain ⟨b, tl, h1, h2, h3, h4⟩ := header_read n hn rest
  refine ⟨b, tl, by rw [Tie.Enc.gen_header_eq n hn, h1], h2, h3, ?_⟩
  rw [Tie.Enc.gen_pai_eq_model _ _ (by omega), h4]

/-- the header is also the shortest-form CBOR head, so any CBOR decoder reads the same count -/
theorem header_is_cbor_head (n : Nat) (hn : n < 2 ^ 32) (rest : Bytes) :
    Cbor.readHead (Generated.toCBORHeader n ++ rest) = some (5, Cbor.aiOf n, n, rest) := by
  rw [Tie.Enc.gen_header_eq n hn]
  exact Cbor.readHead_encHead 5 n rest (by omega) (by omega)

/-- **ordered field map: Keys and Fields agree** — the invariant holds initially and is kept by `Add` and `Delete` -/
theorem omap_invariant :
    OMInv OMap.empty ∧
    (∀ m m' k v, OMInv m → m.add k v = .ok m' → OMInv m') ∧
    (∀ m k, OMInv m → OMInv (m.delete k)) :=
  ⟨inv_empty, fun _ _ _ _ hi h => (cborMap.add_inv hi.agree hi.nodup h).elim OMInv.mk,
    fun m k hi => (cborMap.delete_inv m k hi.agree hi.nodup).elim OMInv.mk⟩

/-- `Add` refuses a key already present (the source of the duplicate-key error) and changes nothing else -/
theorem add_semantics (m : OMap) (k : Int) (v : Bytes) :
    (m.has k = true → m.add k v = .err eOther) ∧
    (m.has k = false → ∃ m', m.add k v = .ok m' ∧ m'.get k = some v ∧ ∀ k', k' ≠ k → m'.get k' = m.get k') := by
  refine ⟨cborMap.add_dup v, fun h => ?_⟩
  have hadd := cborMap.add_ok v h
  exact ⟨_, hadd, cborMap.get_add_same hadd, fun _ hne => cborMap.get_add_other hadd hne⟩

/-- **round trip, including the all-empty struct** -/
theorem populate_serialize (sh : Shape) (v : SVal) (hf : Fits sh v) (hn : ((specs sh).map (·.key)).Nodup)
    (hk : KeysInt64 sh) (hl : (specs sh).length < 2 ^ 32) :
    ∃ bytes, serialize sh v = .ok bytes ∧ populate sh bytes = .ok (.ok v) :=
  Psa.Proofs.Enc.populate_serialize sh v hf hn hk hl

/-- **one map, union of outer and embedded fields, omitempty honoured, stable order, equal to the plain codec** -/
theorem serialize_is_plain_map (sh : Shape) (v : SVal) (bytes : Bytes) (hf : Fits sh v)
    (hn : ((specs sh).map (·.key)).Nodup) (hl : (specs sh).length < 2 ^ 32) (h : serialize sh v = .ok bytes) :
    bytes = (Cbor.map ((present (specs sh) (flat v)).map (fun p => (cInt p.1, p.2)))).enc :=
  Psa.Proofs.Enc.serialize_is_plain_map sh v bytes hf hn hl h

/-- reading back what was written returns the same ordered map, for every entry count below 2³² -/
theorem fromCBOR_toCBOR (m : OMap) (hi : OMInv m) (hr : RawOK m.fields) (hn : m.keys.length < 2 ^ 32) :
    fromCBOR m.toCBOR = .ok m :=
  Psa.Proofs.Enc.fromCBOR_toCBOR m hi hr hn

/-- **a duplicate key in CBOR input is an error** -/
theorem duplicate_key_is_error (fs : List (Int × Bytes)) (hr : RawOK fs) (hdup : ¬ (fs.map (·.1)).Nodup)
    (hn : fs.length < 2 ^ 32) : fromCBOR (Cbor.encHead 5 fs.length ++ encFields fs) = .err eOther := by
  have := readEntries_dup fs [] OMap.empty hr (by simpa [OMap.empty] using hdup) inv_empty
  rw [List.append_nil] at this
  rw [fromCBOR_encHead _ hn, this]
  rfl

/-- **a missing non-optional key is an error** (own fields of a struct; `popFields` is what
    `doPopulateStructFromCBOR` runs for every struct of the nest) -/
theorem missing_mandatory_is_error (fs : List FieldSpec) (m : OMap) (f : FieldSpec) (hf : f ∈ fs)
    (ho : f.omitempty = false) (hm : m.get f.key = none) : ∀ r, popFields fs m ≠ .ok r :=
  cbor.popFields_missing_any hf ho hm

/-! ### JSON side (tree level) -/

/-- **JSON round trip, including the all-empty struct** -/
theorem json_populate_serialize (sh : EncJ.ShapeJ) (v : SVal) (hf : Proofs.EncJ.Fits sh v)
    (hn : ((Proofs.EncJ.specs sh).map (·.name)).Nodup) :
    ∃ j, EncJ.serialize sh v = .ok j ∧ EncJ.populate sh j = .ok v :=
  Proofs.EncJ.populate_serialize sh v hf hn

/-- **JSON: one object, union of outer and embedded fields in declaration order, omitempty honoured** -/
theorem json_serialize_is_plain_object (sh : EncJ.ShapeJ) (v : SVal) (j : Json) (hf : Proofs.EncJ.Fits sh v)
    (hn : ((Proofs.EncJ.specs sh).map (·.name)).Nodup) (h : EncJ.serialize sh v = .ok j) :
    j = .obj (Proofs.EncJ.present (Proofs.EncJ.specs sh) (Proofs.EncJ.flat v)) :=
  Proofs.EncJ.serialize_is_plain_object sh v j hf hn h

/-- **JSON: a missing non-optional member is an error** -/
theorem json_missing_mandatory_is_error (fs : List EncJ.FieldSpecJ) (m : EncJ.JMap) (f : EncJ.FieldSpecJ) (hf : f ∈ fs)
    (ho : f.omitempty = false) (hm : m.get f.name = none) : ∀ r, EncJ.popFields fs m ≠ .ok r :=
  Proofs.EncJ.json.popFields_missing_any hf ho hm

/-- the JSON ordered map keeps `Keys` and `Fields` in agreement under `Add` and `Delete` -/
theorem json_omap_invariant :
    Proofs.EncJ.JInv EncJ.JMap.empty ∧
    (∀ m m' k v, Proofs.EncJ.JInv m → m.add k v = .ok m' → Proofs.EncJ.JInv m') ∧
    (∀ m k, Proofs.EncJ.JInv m → Proofs.EncJ.JInv (m.delete k)) :=
  ⟨Proofs.EncJ.inv_empty,
    fun _ _ _ _ hi h => (Proofs.EncJ.jsonMap.add_inv hi.agree hi.nodup h).elim .mk,
    fun m k hi => (Proofs.EncJ.jsonMap.delete_inv m k hi.agree hi.nodup).elim .mk⟩


/-! ### JSON side, token level: the two hand-written loops behind `FromJSON` (`unmarshalKeys`, `skipValue`) -/

/-- **stable key order, at the level of the code's token walk**: on the token stream Go's decoder yields for an
    object — any members, any nesting inside the member values, duplicated names included — `unmarshalKeys` leaves
    exactly the member names in document order -/
theorem json_keys_in_document_order (ms : List (Bytes × Json)) :
    JTok.unmarshalKeys (JTok.tokens (.obj ms)) = .ok (ms.map (·.1)) :=
  Proofs.JTok.unmarshalKeys_obj ms

/-- `skipValue` skips exactly one value, whatever it contains, and stops in front of what follows it -/
theorem json_skip_value_exact (v : Json) (rest : List JTok.Tok) :
    JTok.skipValue (2 * (JTok.tokens v ++ rest).length + 2) (JTok.tokens v ++ rest) = .ok rest :=
  Proofs.JTok.skipValue_tokens v _ rest (by simp only [List.length_append]; omega)

/-- **the token loops refine the tree-level ordered map** the `json_*` theorems above are about: for every document,
    the same verdict (objects only) and the same `Keys` -/
theorem json_token_layer_refines_tree (j : Json) :
    JTok.fromJSONKeys j = (match EncJ.fromJSON j with
      | .ok m => .ok m.keys
      | _ => .err) :=
  Proofs.JTok.fromJSONKeys_refines j

/-! non-vacuity: a two-level shape (outer, embedded, embedded-in-embedded) with optional fields absent and present
    meets the hypotheses, and the all-empty value of an all-optional shape does too -/
def exShape : Shape :=
  .mk [⟨1, false, .int⟩, ⟨2, true, .text⟩] [.mk [⟨-3, true, .bytes⟩] [.mk [⟨4, false, .bytes⟩] []]]
def exVal : SVal := .mk [some (.int (-5)), none] [.mk [some (.bytes [1, 2])] [.mk [none] []]]
example : Fits exShape exVal := by
  simp [exShape, exVal, Fits, FitsList, TypedAll, Typed, Proofs.Enc.Int64]
example : ((specs exShape).map (·.key)).Nodup ∧ (specs exShape).length < 2 ^ 32 := by
  simp [exShape, specs, specsList]
example : KeysInt64 exShape := by
  intro f hf; simp [exShape, specs, specsList] at hf
  rcases hf with rfl | rfl | rfl | rfl <;> simp [Proofs.Enc.Int64]
example : Fits (.mk [⟨1, true, .int⟩, ⟨2, true, .text⟩] []) (.mk [none, none] []) := by
  simp [Fits, FitsList, TypedAll, Typed]
example : serialize (.mk [⟨1, true, .int⟩, ⟨2, true, .text⟩] []) (.mk [none, none] []) = .ok [0xa0] := by decide
example : JTok.unmarshalKeys (JTok.tokens (.obj [(strBytes "a", .arr [.obj [(strBytes "x", .null)], .int 1]), (strBytes "a", .str [])]))
    = .ok [strBytes "a", strBytes "a"] := by decide
example : JTok.unmarshalKeys (JTok.tokens (.arr [])) = .err := by decide

end Psa.Props.C15
