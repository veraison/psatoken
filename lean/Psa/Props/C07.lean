/-
  C07 — Decoding dispatches on the declared profile, defaulting to profile 1.
  Property theorems (`profName` names a built-in profile).  Quantifier: every CBOR tree / JSON document, every set of extra
  registered profile names (`extra`, any list).
-/
import Psa.Proofs.Dispatch
import Psa.Proofs.JsonRoundTrip
namespace Psa.Props.C07
open Psa Psa.Model Psa.Spec Psa.Proofs

/-- name of a built-in profile -/
def profName : Prof → Bytes
  | .p1 => p1Name
  | .p2 => p2Name

/-- CBOR: which implementation decodes the token is a function of the profile claim alone:
    absent / null (selector "") or the profile-1 name → profile 1, the profile-2 name → profile 2,
    anything unregistered → error. -/
theorem cbor_dispatch (u : Bytes → Dec Bytes) (extra : List Bytes) (t : Cbor) (name : Bytes)
    (hs : selectProfile t = .ok name) :
    (name = [] ∨ name = p1Name → decodeClaimsMap u extra t = unmarshalInto u (Claims.new .p1) t) ∧
    (name = p2Name → decodeClaimsMap u extra t = unmarshalInto u (Claims.new .p2) t) ∧
    (lookupProfile extra name = none → decodeClaimsMap u extra t = .err) := by
  unfold decodeClaimsMap
  rw [hs]
  simp only [Dec.bind]
  exact ⟨fun h => by rw [lookupProfile_p1 extra name h], fun h => by rw [h, lookupProfile_p2], fun h => by rw [h]⟩

/-- A token with no profile claim (no entry selecting key 265) is decoded as profile 1. -/
theorem no_profile_is_p1_cbor (u : Bytes → Dec Bytes) (extra : List Bytes) (kvs : List (Cbor × Cbor))
    (hk : ∀ kv ∈ kvs, keyRes kv.1 ≠ .bad ∧ selectField [265] (keyRes kv.1) = none) :
    decodeClaimsTree u extra (.map kvs) = unmarshalInto u (Claims.new .p1) (.map kvs) :=
  -- no entry selects the profile field, so the selector struct keeps its empty name
  (cbor_dispatch u extra (.map kvs) []
    (structDecode_skip [265] setSelector [] kvs fun kv hkv => by
      rw [Perm.sel_of_key _ kv.2 (hk kv hkv).1, (hk kv hkv).2])).1 (.inl rfl)

/-- JSON: a document with no (or a null) profile member is decoded as profile 1. -/
theorem no_profile_is_p1_json (u : Bytes → Dec Bytes) (ms : List (Bytes × Json)) (hc : namesClean ms = true)
    (h1 : lookupMember ms jP1Profile = none ∨ lookupMember ms jP1Profile = some .null)
    (h2 : lookupMember ms jP2Profile = none ∨ lookupMember ms jP2Profile = some .null) :
    decodeClaimsJSON u builtinRegistry (.obj ms) = unmarshalJSONInto u (Claims.new .p1) (.obj ms) :=
  JRT.decodeClaimsJSON_default u ms hc h1 h2

/-- An unregistered profile value is an error (CBOR). -/
theorem unknown_profile_err (u : Bytes → Dec Bytes) (extra : List Bytes) (t : Cbor) (name : Bytes)
    (hs : selectProfile t = .ok name) (hn : name ≠ [] ∧ name ≠ p1Name ∧ name ≠ p2Name ∧ name ∉ extra) :
    decodeClaimsTree u extra t = .err := by
  rcases decodeClaimsTree_cases u extra t with ⟨_, he⟩ | ⟨_, he⟩
  · rw [he]
    exact (cbor_dispatch u extra t name hs).2.2 (lookupProfile_none extra name hn)
  · exact he

/-- A token is only ever validated under the rules of the profile it declares, and an accepted
    token reports that same profile: whatever decode-and-validate returns is a claims-set of the
    implementation selected by the profile claim, and its profile getter returns that profile's
    name (profile 1's name when none is declared). -/
theorem accepted_reports_declared (u : Bytes → Dec Bytes) (extra : List Bytes) (t : Cbor) (c : Claims)
    (hd : decodeClaimsTree u extra t = .ok c) (hv : validate c = .ok ()) :
    ∃ name, selectProfile t = .ok name ∧
      ((name = [] ∨ name = p1Name) ∧ c.prof = .p1 ∨ name = p2Name ∧ c.prof = .p2) ∧
      getProfile c = .ok (.text (profName c.prof)) := by
  rcases decodeClaimsTree_cases u extra t with ⟨_, he⟩ | ⟨_, he⟩ <;> rw [he] at hd
  · obtain ⟨name, hs, h⟩ := decodeClaimsMap_ok u extra t c hd
    have hget := getProfile_of_ok c ((conformant_iff_all c).mp ((Proofs.validate_iff_conformant c).mp hv) .profile)
    refine ⟨name, hs, ?_⟩
    -- decoding into `Claims.new p` gives a claims-set of profile `p`, and a valid one reports `p`'s name
    rcases h with ⟨hn, hu⟩ | ⟨hn, hu⟩ <;> obtain ⟨hp, hcan⟩ := Prod.mk.inj (unmarshalInto_frame u _ t c hu)
    · exact ⟨.inl ⟨hn, hp⟩, by rw [hget, hcan, hp, Claims.new, profName]⟩
    · exact ⟨.inr ⟨hn, hp⟩, by rw [hget, hcan, hp, Claims.new, profName]⟩
  · cases hd

/-- Anything that is not a CBOR map — null, undefined, a tagged item, an array … — is rejected
    (the repaired behaviour, fix d1614d8). -/
theorem non_map_rejected (u : Bytes → Dec Bytes) (extra : List Bytes) (t : Cbor) (h : ∀ kvs, t ≠ .map kvs) :
    decodeClaimsTree u extra t = .err :=
  (decodeClaimsTree_cases u extra t).elim (fun ⟨⟨kvs, hk⟩, _⟩ => absurd hk (h kvs)) (·.2)

/-- `NewClaims(p)` reports `p` (built-in profiles). -/
theorem newClaims_reports (p : Prof) : getProfile (Claims.new p) = .ok (.text (profName p)) := by
  cases p <;> simp [getProfile, Claims.new, profName]

-- non-vacuity: key 265 selects the profile field of the selector struct; an empty map selects the empty name (profile 1)
example : keyRes (cInt 265) = .int 265 ∧ selectField [265] (.int 265) = some 265 := by decide
example : selectProfile (.map []) = .ok [] := by decide

end Psa.Props.C07
