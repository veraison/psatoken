/-
  C02 — A modified token or a different key never verifies.
  Property theorems, and the honest world they speak of (`Signed`, `logOf`).  Signatures are the *ideal functionality* (DESIGN §4 C02): the world's
  log holds exactly the (key, to-be-signed, signature) triples honest signers produced.  That is
  a hypothesis of the theorems (`hlog`), not an axiom; computational hardness of the real
  schemes is outside the model and only sampled by the correspondence run.
-/
import Psa.Props.C20
namespace Psa.Props.C02
open Psa Psa.Model Psa.Proofs

/-- one honest signing event: key, protected-header bytes, payload, signature returned -/
structure Signed where
  key : Nat
  prot : Bytes
  payload : Bytes
  sig : Bytes

/-- the log an honest world has after exactly these signing events -/
def logOf (l : List Signed) : List (Nat × Bytes × Bytes) :=
  l.map fun q => (q.key, toBeSigned q.prot externalAAD q.payload, q.sig)

def Bounded (l : List Signed) : Prop := ∀ q ∈ l, q.prot.length < 2 ^ 64 ∧ q.payload.length < 2 ^ 64

theorem mem_logOf {l : List Signed} {k : Nat} {tbs sig : Bytes} :
    (k, tbs, sig) ∈ logOf l ↔ ∃ q ∈ l, q.key = k ∧ toBeSigned q.prot externalAAD q.payload = tbs ∧ q.sig = sig := by
  simp only [logOf, List.mem_map, Prod.mk.injEq]

/-- Sig_structure is injective in (protected bytes, payload). -/
theorem tbs_injective (p p' pl pl' : Bytes) (hp : p.length < 2 ^ 64) (hp' : p'.length < 2 ^ 64)
    (hpl : pl.length < 2 ^ 64) (hpl' : pl'.length < 2 ^ 64)
    (h : toBeSigned p externalAAD pl = toBeSigned p' externalAAD pl') : p = p' ∧ pl = pl' :=
  Proofs.tbs_injective p p' externalAAD pl pl' hp hp' (by decide) hpl hpl' h

/-- **Soundness of verification.**  If `Verify(pk_k)` succeeds on an Evidence then key `k`
    honestly signed exactly this message: same protected-header bytes, same payload, same
    signature.  Hence a token whose payload or protected bytes differ from everything `k`
    signed, or whose signature is not the one returned for that very message, or any token
    under a key that signed nothing, never verifies. -/
theorem modified_never_verifies (kt : KeyTable) (w : World) (e : Ev) (k : Nat) (signed : List Signed)
    (hlog : w.log = logOf signed) (hb : Bounded signed)
    (hm : ∀ m pl, e.msg = some m → m.payload = some pl → m.prot.length < 2 ^ 64 ∧ pl.length < 2 ^ 64)
    (hv : evVerify kt w e k = .ok ()) :
    ∃ m pl, e.msg = some m ∧ m.payload = some pl ∧
      ∃ q ∈ signed, q.key = k ∧ q.prot = m.prot ∧ q.payload = pl ∧ q.sig = m.sig := by
  obtain ⟨m, pl, a, hmsg, hpl, _, _, _, hmem⟩ := verify_sound kt w e k hv
  refine ⟨m, pl, hmsg, hpl, ?_⟩
  obtain ⟨q, hq, hk, htbs, hsig⟩ := mem_logOf.mp (hlog ▸ hmem)
  obtain ⟨hb1, hb2⟩ := hb q hq
  obtain ⟨hm1, hm2⟩ := hm m pl hmsg hpl
  obtain ⟨h1, h2⟩ := tbs_injective q.prot m.prot q.payload pl hb1 hm1 hb2 hm2 htbs
  exact ⟨q, hq, hk, h1, h2, hsig⟩

/-- different key: a key that signed nothing verifies nothing -/
theorem different_key_never_verifies (kt : KeyTable) (w : World) (e : Ev) (k : Nat) (signed : List Signed)
    (hlog : w.log = logOf signed) (hk : ∀ q ∈ signed, q.key ≠ k) : evVerify kt w e k ≠ .ok () := by
  intro hv
  obtain ⟨m, pl, a, _, _, _, _, _, hmem⟩ := verify_sound kt w e k hv
  obtain ⟨q, hq, hk', _⟩ := mem_logOf.mp (hlog ▸ hmem)
  exact hk q hq hk'

/-- Verification never succeeds for a message that carries no algorithm in its protected
    header, no payload or no signature. -/
theorem verify_needs_alg_payload_sig (kt : KeyTable) (w : World) (e : Ev) (k : Nat) (m : Msg) (hmsg : e.msg = some m)
    (h : (∀ a, protAlg m.prot ≠ .alg a) ∨ m.payload = none ∨ m.sig = []) : evVerify kt w e k ≠ .ok () := by
  intro hv
  obtain ⟨m', pl, a, hm', hpl, ha, _, hs, _⟩ := verify_sound kt w e k hv
  rw [hmsg] at hm'; cases hm'
  rcases h with h | h | h
  · exact h a ha
  · rw [h] at hpl; cases hpl
  · exact hs h

/-- no message at all (a fresh Evidence) never verifies -/
theorem verify_needs_message (kt : KeyTable) (w : World) (c : Option Claims) (k : Nat) :
    evVerify kt w { claims := c, msg := none } k ≠ .ok () := by
  intro hv
  obtain ⟨m, _, _, hm, _⟩ := verify_sound kt w _ k hv
  cases hm

/-- The algorithm is read from the *protected* bucket only: an empty protected header has none,
    whatever the unprotected bucket holds (the message model does not even carry it). -/
theorem empty_protected_has_no_alg : protAlg [] = .notFound := rfl

/-- The bytes the signature check is run on are determined by the decoded token alone: what
    `Verify` checks for a decoded Evidence is the Sig_structure over the token's own protected
    bytes and payload (external AAD empty, equal on the signing and the verifying side: T2). -/
theorem verify_checks_token_bytes (u : Bytes → Dec Bytes) (extra : List Bytes) (e e' : Ev) (bs : Bytes)
    (h : evUnmarshal u extra e bs = (e', .ok ())) :
    ∃ m p, e'.msg = some m ∧ m.payload = some p ∧ C20.Sign1Shape bs m.prot (.bstr p) m.sig := by
  obtain ⟨m, p, _, _, _, hp, hshape, _, _, rfl⟩ := C20.unmarshal_ok u extra e e' bs h
  exact ⟨m, p, rfl, hp, hshape⟩

-- non-vacuity: an honest world in which verification does succeed
def demoMsg : Msg := { prot := protOfAlg (-7), payload := some [0xa0], sig := [9, 9] }
def demoWorld : World := { log := logOf [{ key := 3, prot := protOfAlg (-7), payload := [0xa0], sig := [9, 9] }] }
example : evVerify (fun _ _ => true) demoWorld { claims := none, msg := some demoMsg } 3 = .ok () := by decide
example : evVerify (fun _ _ => true) demoWorld { claims := none, msg := some demoMsg } 4 ≠ .ok () := by decide
example : evVerify (fun _ _ => true) demoWorld { claims := none, msg := some { demoMsg with payload := some [0xa1] } } 3 ≠ .ok () := by
  decide

end Psa.Props.C02
