/-
  C05 — No input bytes can make a decode entry point (or what it returns) panic.
  Property theorems only.  In the model a panic is a value (`Outcome.panic site`), produced exactly where
  Go's partial operations (index, slice, nil dereference, method call on a nil interface) would fault; these
  theorems say that value is never produced, for every byte string / every claims-set.
  The typed decoders of the model return `Dec α` (ok / err / outside-the-modelled-domain), which has no panic
  constructor: the CBOR/JSON/COSE *library* decoders are assumed not to panic (trusted base) and that
  assumption is exercised by the harness on the real code with `recover()` around every call.
-/
import Psa.Proofs.EncTotal
import Psa.Proofs.Validate
import Psa.Tie.Encoding
import Psa.Model.Json
import Psa.Proofs.Evidence
namespace Psa.Props.C05
open Psa Psa.Model Psa.Model.Enc

/-- **the hand-written CBOR map reader**: `FromCBOR` returns a map or an error for every byte string -/
theorem fromCBOR_total (data : Bytes) : ∀ s, fromCBOR data ≠ .panic s :=
  Proofs.Enc.fromCBOR_total data

/-- **the embedding-aware populate helper (CBOR)** never panics, for every struct shape and every byte string -/
theorem populate_total (sh : Shape) (data : Bytes) : ∀ s, populate sh data ≠ .panic s :=
  Proofs.np_map _ _ (Proofs.Enc.fromCBOR_total data)

/-- the additional-information reader *as regenerated from /repo on this run* never panics: every index and slice
    expression in it is guarded by the length test that precedes it -/
theorem processAdditionalInfo_total (ai : Nat) (data : Bytes) (h : ai < 32) :
    ∀ s, Generated.processAdditionalInfo ai data ≠ .panic s := by
  rw [Tie.Enc.gen_pai_spec_all ai data]; exact Tie.Enc.paiSpec_no_panic ai data

/-- **whatever decoding returns can be validated**: validation never panics, for every claims-set the decoders can
    produce — absent claims, nil component entries (`[null]` on the wire), nil interface fields included -/
theorem validate_total (c : Claims) : ∀ s, validate c ≠ .panic s :=
  Proofs.noPanic_validateWith _ c

/-- **… read through every getter** -/
theorem getters_total (g : Getter) (c : Claims) : ∀ s, Model.get g c ≠ .panic s :=
  Proofs.noPanic_get g c

/-- **… re-encoded to CBOR** -/
theorem encode_cbor_total (c : Claims) : ∀ s, encodeClaims c ≠ .panic s := by
  refine Proofs.np_map _ _ ?_
  unfold claimsToCbor
  cases c.prof
  · exact Proofs.np_ok _
  · show Proofs.NoPanic (p2ToCbor c)
    unfold p2ToCbor
    split
    · exact Proofs.np_err _
    · refine Proofs.np_bind _ _ ?_ fun _ _ => Proofs.np_ok _
      cases c.nonce with
      | none => exact Proofs.np_ok _
      | some l =>
        dsimp only
        split
        · exact Proofs.np_err _
        · split <;> exact Proofs.np_ok _

/-- **… re-encoded to JSON** -/
theorem encode_json_total (c : Claims) : ∀ s, encodeJSON c ≠ .panic s := by
  unfold encodeJSON
  cases c.prof
  · exact Proofs.np_ok _
  · show Proofs.NoPanic (p2ToJson c)
    unfold p2ToJson
    split
    · exact Proofs.np_err _
    · refine Proofs.np_bind _ _ ?_ fun _ _ => Proofs.np_ok _
      cases c.nonce with
      | none => exact Proofs.np_ok _
      | some l =>
        dsimp only
        split
        · exact Proofs.np_err _
        · split <;> exact Proofs.np_ok _

/-- **… and verified against any key**: verification of any evidence state (no envelope, no payload, empty signature,
    algorithm missing or malformed, wrong key type) returns ok or an error -/
theorem verify_total (kt : KeyTable) (w : World) (e : Ev) (k : Nat) : ∀ s, evVerify kt w e k ≠ .panic s := by
  intro s h
  rcases Proofs.evVerify_cases kt w e k with ⟨he, _⟩ | he <;> rw [he] at h <;> cases h

end Psa.Props.C05
