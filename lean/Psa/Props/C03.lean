/-
  C03 — Sign → decode → verify round trip binds exactly the validated claims.
  Property theorems only.  Ideal signatures as in C02.  The hypotheses `… < 2 ^ 64` bound the sizes
  of the byte strings involved (true of every Go value); they are needed where the verified CBOR
  decoder reads the envelope back.
-/
import Psa.Props.C20
namespace Psa.Props.C03
open Psa Psa.Model Psa.Proofs

/-- The protected header `{1: alg}` carries the signer's algorithm. -/
theorem protected_carries_alg (alg : Int) (h : -2 ^ 63 ≤ alg ∧ alg < 2 ^ 63) : protAlg (protOfAlg alg) = .alg alg := by
  unfold protAlg
  rw [if_neg (protOfAlg_ne alg), decodeAll_protOfAlg alg h]
  exact algOfMap_cInt alg

/-- `ValidateAndSign` of a valid claims-set with an honest signer yields the tagged COSE_Sign1
    whose payload is byte-identical to the validated CBOR encoding of the claims, whose protected
    header is `{1: alg}`, and whose signature is the signer's reply; the signing Evidence itself
    verifies under the signer's key. -/
theorem sign_roundtrip (kt : KeyTable) (w : World) (e : Ev) (c : Claims) (sg : Signer) (b : Bytes)
    (hc : e.claims = some c) (hval : validate c = .ok ()) (henc : encodeClaims c = .ok b)
    (hg : sg.kind = .good) (hr : sg.reply ≠ []) (hkt : kt sg.key sg.alg = true)
    (ha : -2 ^ 63 ≤ sg.alg ∧ sg.alg < 2 ^ 63) :
    (evSign true w e sg).2.2 = .ok (envelopeTree { prot := protOfAlg sg.alg, payload := some b, sig := sg.reply }).enc ∧
    (evSign true w e sg).2.1 = { e with msg := some { prot := protOfAlg sg.alg, payload := some b, sig := sg.reply } } ∧
    evVerify kt (evSign true w e sg).1 (evSign true w e sg).2.1 sg.key = .ok () := by
  have hp : signPayload true e.claims = .ok b := hc ▸ (signPayload_ok_iff true c b).mpr ⟨fun _ => hval, henc⟩
  have hs := evSign_ok true w e sg b hp hg hr
  exact ⟨by rw [hs], by rw [hs], evSign_verifies kt true w e sg b hp hg hr hkt (protected_carries_alg sg.alg ha)⟩

/-- Decoding the issued token gives back exactly the message that was signed (same protected
    bytes, payload, signature), and the claims exposed are the decoding of that very payload. -/
theorem decode_issued_token (u : Bytes → Dec Bytes) (extra : List Bytes) (e0 : Ev) (alg : Int) (b sig : Bytes)
    (ha : -2 ^ 63 ≤ alg ∧ alg < 2 ^ 63) (hs : sig ≠ [])
    (h1 : (protOfAlg alg).length < 2 ^ 64) (h2 : b.length < 2 ^ 64) (h3 : sig.length < 2 ^ 64) :
    decodeEnvelope (envelopeTree { prot := protOfAlg alg, payload := some b, sig := sig }).enc =
      .ok { prot := protOfAlg alg, payload := some b, sig := sig } ∧
    (∀ c, decodeClaims u extra b = .ok c →
      evUnmarshal u extra e0 (envelopeTree { prot := protOfAlg alg, payload := some b, sig := sig }).enc =
        ({ claims := some c, msg := some { prot := protOfAlg alg, payload := some b, sig := sig } }, .ok ())) := by
  have henv := decodeEnvelope_envelopeTree (protOfAlg alg) b sig (protClass_ok alg ha) hs h1 h2 h3
  exact ⟨henv, fun c hc => evUnmarshal_ok u extra e0 _ _ b c henv rfl hc⟩

/-- The claims exposed by a decoded Evidence are always the decoding of the payload the
    signature covers. -/
theorem claims_from_verified_payload (u : Bytes → Dec Bytes) (extra : List Bytes) (e e' : Ev) (bs : Bytes)
    (h : evUnmarshal u extra e bs = (e', .ok ())) :
    ∃ m p c, e'.msg = some m ∧ m.payload = some p ∧ e'.claims = some c ∧ decodeClaims u extra p = .ok c := by
  obtain ⟨m, p, _, c, _, hp, _, _, hc, rfl⟩ := C20.unmarshal_ok u extra e e' bs h
  exact ⟨m, p, c, rfl, hp, rfl, hc⟩

end Psa.Props.C03
