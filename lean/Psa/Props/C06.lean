/-
  C06 — Decoding terminates with memory proportional to the input size.
  Property theorems only.  What a theorem can carry here: (1) termination — every decoding function of the model is a
  total Lean function, and where the model uses a fuel parameter the fuel is shown never to be what stops it, because
  every round consumes input; (2) the *logical* resource claim for the hand-written map reader — what `FromCBOR` keeps
  (number of entries, total raw bytes) is bounded by the length of the input, whatever length the header declares.
  What it cannot carry: bytes actually allocated by the Go runtime and the CBOR/JSON libraries (map growth, slices,
  the library's own pre-sizing).  That part is measured on the real code by the harness worker (TotalAlloc, wall
  clock) and the property is claimed at level `partial` for that reason.
-/
import Psa.Proofs.EncBound
import Psa.Cbor.FuelFree
import Psa.Tie.Encoding
import Psa.Tie.Facts.Alloc
import Psa.Proofs.JsonTokens
namespace Psa.Props.C06
open Psa Psa.Model Psa.Model.Enc Psa.Proofs.Enc

/-- **a declared length reserves nothing**: for every byte string, if `FromCBOR` succeeds the map it returns holds at
    most one entry per two input bytes and no more raw bytes than the input had — in particular a header declaring
    2³² − 1 entries followed by nothing yields an error, not an allocation -/
theorem fromCBOR_bound (data : Bytes) (m : OMap) (h : fromCBOR data = .ok m) :
    2 * m.keys.length ≤ data.length ∧ OMap.rawBytes m ≤ data.length :=
  Proofs.Enc.fromCBOR_bound data m h

/-- each round of either loop adds exactly one entry and consumes at least two bytes -/
theorem step_consumes (rest r : Bytes) (m m' : OMap) (h : unmarshalKeyValue rest m = .ok (r, m')) :
    m'.keys.length = m.keys.length + 1 ∧ r.length + 2 ≤ rest.length :=
  have ⟨h1, _, _, h2⟩ := ukv_step rest r m m' h
  ⟨h1, h2⟩

/-- a definite-length map declaring more entries than half the remaining bytes is rejected -/
theorem declared_length_needs_data (n : Nat) (rest : Bytes) (h : rest.length < 2 * n) :
    ∀ r, readEntries n rest OMap.empty ≠ .ok r := by
  rintro ⟨r1, m1⟩ hr
  have := readEntries_bound n rest r1 OMap.empty m1 hr
  omega

/-- **termination of the indefinite-length loop**: the fuel the model passes (`len + 1`) is never what stops the loop;
    any larger amount gives the same answer -/
theorem indefinite_loop_terminates (f : Nat) (rest : Bytes) (m : OMap) (h : rest.length < f) :
    readUntilBreak f rest m = readUntilBreak (rest.length + 1) rest m :=
  readUntilBreak_fuel f (rest.length + 1) rest m h (by omega)

/-- **progress of the item decoder** (model of the library's well-formedness pass): a decoded item consumes at least
    one byte and leaves a suffix, so every loop over items terminates within `length` rounds -/
theorem item_decoder_consumes (bs : Bytes) (t : Cbor) (rest : Bytes) (h : Cbor.decodeFirst {} bs = some (t, rest)) :
    rest.length < bs.length :=
  (Cbor.decodeFirst_consumes {} bs t rest h).length_lt

/-- **the model of the library's item decoder is not cut short by its fuel**: the fuel the model passes (`length + 1`) is
    never what makes it stop — any larger amount gives the same answer, success or failure — so the model's verdicts on
    nesting and truncation are those of an unbounded recursive descent -/
theorem item_decoder_fuel_never_binds (d : Nat) (bs : Bytes) (F : Nat) (hF : bs.length + 1 ≤ F) :
    Cbor.dec {} F d bs = Cbor.dec {} (bs.length + 1) d bs :=
  Cbor.dec_fuel {} _ F d bs (Nat.le_succ _) (Nat.le_of_succ_le hF)

/-- the additional-information reader (regenerated from /repo) never returns more bytes than it was given -/
theorem header_reader_shrinks (ai : Nat) (data r : Bytes) (n : Nat) (hai : ai < 32)
    (h : Generated.processAdditionalInfo ai data = .ok (n, r)) : r.length ≤ data.length := by
  rw [Tie.Enc.gen_pai_eq_model ai data hai] at h
  exact pai_len ai data r n h

/-- T2: no buffer or map anywhere in the two packages is sized from a value read off the wire (regenerated fact: the
    only sized `make` calls copy slices already held) -/
theorem no_allocation_sized_from_input : Generated.Facts.sizedMakes =
    [("psatoken", "SwComponents.Values", "len(o.values)"), ("psatoken", "validateAndConvert", "len(vals)")] :=
  Tie.Facts.sized_makes

/-! ### the hand-written JSON token walk (`unmarshalKeys`, recursive `skipValue`) -/

/-- **the recursive walk terminates on every token stream**, well-formed or not: with fuel `2·len + 1` (resp. `+ 2`
    for the inner loop) the model never runs out of fuel — the fuel is not what stops it -/
theorem json_skip_terminates (ts : List JTok.Tok) (f : Nat) :
    (2 * ts.length + 1 ≤ f → JTok.skipValue f ts ≠ .fuel) ∧ (2 * ts.length + 2 ≤ f → JTok.skipLoop f ts ≠ .fuel) :=
  Proofs.JTok.skip_fuel_enough f ts

/-- … and the result does not depend on the fuel -/
theorem json_skip_fuel_irrelevant (ts : List JTok.Tok) (f : Nat) (hf : 2 * ts.length + 1 ≤ f) :
    JTok.skipValue f ts = JTok.skipValue (2 * ts.length + 1) ts :=
  Proofs.JTok.skip_fuel_irrelevant ts f hf

/-- every successful `skipValue` has read at least one token: the key loop of `unmarshalKeys` makes progress -/
theorem json_skip_consumes (f : Nat) (ts r : List JTok.Tok) :
    (JTok.skipValue f ts = .ok r → r.length < ts.length) ∧ (JTok.skipValue f ts = .eos r → r.length < ts.length) :=
  ⟨(Proofs.JTok.skip_consumes f ts).1 r, (Proofs.JTok.skip_consumes f ts).2.1 r⟩

/-- `unmarshalKeys` returns on every token stream -/
theorem json_key_pass_terminates (ts : List JTok.Tok) : JTok.unmarshalKeys ts ≠ .fuel :=
  Proofs.JTok.unmarshalKeys_total ts

-- non-vacuity: the hostile header `ba ff ff ff ff` (2³²−1 entries, no data) is an error, `a0` is the empty map
example : fromCBOR [0xba, 0xff, 0xff, 0xff, 0xff] = .err eOther := by decide
example : fromCBOR [0xa0] = .ok OMap.empty := by decide
example : JTok.skipValue 11 [.arrOpen, .objOpen, .arrClose, .objClose, .num] = .ok [.num] := by decide  -- closers are not matched
example : JTok.skipValue 7 [.arrOpen, .arrOpen, .arrOpen] = .err := by decide

end Psa.Props.C06
