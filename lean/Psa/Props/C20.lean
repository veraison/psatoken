/-
  C20 — Only a well-formed tagged COSE_Sign1 carrying a claims map is evidence.
  Property theorems, with the shape the property names (`Sign1Shape`) and the one statement the others are read off
  (`unmarshal_ok`).  Quantifier: every byte string.  `decodeEnvelope` over-approximates
  go-cose (header-parameter validation is not modelled: such inputs are `ood`, never `ok`
  without the shape below), so "the model accepts ⇒ shape" covers "the library accepts ⇒ shape".
-/
import Psa.Proofs.Evidence
import Psa.Proofs.Dispatch
namespace Psa.Props.C20
open Psa Psa.Model Psa.Proofs

/-- the shape the property names: tag 18, exactly four elements — protected bstr, unprotected
    map, payload, non-empty signature bstr — and nothing after it -/
def Sign1Shape (bs : Bytes) (prot : Bytes) (payload : Cbor) (sig : Bytes) : Prop :=
  ∃ un, Cbor.decodeAll {} bs = some (.tag 18 (.arr [.bstr prot, .map un, payload, .bstr sig])) ∧ sig ≠ []

/-- Envelope decoding succeeds only for a tag-18 array of exactly four elements of the right
    types with nothing after it. -/
theorem accepts_shape (bs : Bytes) (m : Msg) (h : decodeEnvelope bs = .ok m) :
    ∃ payload, Sign1Shape bs m.prot payload m.sig ∧
      ((∃ p, payload = .bstr p ∧ m.payload = some p) ∨ (payload = Cbor.null ∧ m.payload = none)) := by
  obtain ⟨xs, hd, hx⟩ := decodeEnvelope_ok bs m h
  obtain ⟨un, pl, rfl, hs, hpl⟩ := msgOfArray_ok xs m hx
  exact ⟨pl, ⟨un, hd, hs⟩, hpl⟩

/-- all that a successful COSE decode tells: the envelope decoded to `m`, with the shape above and a byte-string
    payload; the payload holds exactly one CBOR map; the claims are its decoding; that is the new state -/
theorem unmarshal_ok (u : Bytes → Dec Bytes) (extra : List Bytes) (e e' : Ev) (bs : Bytes)
    (h : evUnmarshal u extra e bs = (e', .ok ())) :
    ∃ m p kvs c, decodeEnvelope bs = .ok m ∧ m.payload = some p ∧ Sign1Shape bs m.prot (.bstr p) m.sig ∧
      Cbor.decodeAll {} p = some (.map kvs) ∧ decodeClaims u extra p = .ok c ∧
      e' = { claims := some c, msg := some m } := by
  rcases evUnmarshal_cases u extra e bs with ⟨m, p, c, hd, hp, hc, heq⟩ | ⟨cl, r, heq, hr⟩
  · rw [heq] at h; cases h
    obtain ⟨payload, hshape, ⟨p', rfl, hp'⟩ | ⟨_, hp'⟩⟩ := accepts_shape bs m hd <;> rw [hp] at hp' <;> cases hp'
    -- the claims decoder only accepts a map
    obtain ⟨kvs, hmap, _⟩ := decodeClaims_ok u extra p c hc
    exact ⟨m, p, kvs, c, hd, hp, hshape, hmap, hc, rfl⟩
  · rw [heq] at h; cases h; exact absurd rfl hr

/-- Evidence decoding succeeds only if, moreover, the payload is a byte string holding exactly
    one CBOR map that decodes as a claims-set (nil, empty and non-map payloads are rejected). -/
theorem evidence_shape (u : Bytes → Dec Bytes) (extra : List Bytes) (e e' : Ev) (bs : Bytes)
    (h : evUnmarshal u extra e bs = (e', .ok ())) :
    ∃ m p kvs c, decodeEnvelope bs = .ok m ∧ Sign1Shape bs m.prot (.bstr p) m.sig ∧
      Cbor.decodeAll {} p = some (.map kvs) ∧ decodeClaims u extra p = .ok c ∧
      e' = { claims := some c, msg := some m } := by
  obtain ⟨m, p, kvs, c, hd, _, hs, hm, hc, he⟩ := unmarshal_ok u extra e e' bs h
  exact ⟨m, p, kvs, c, hd, hs, hm, hc, he⟩

/-- COSE_Mac0 (tag 17), COSE_Sign (tag 98), other tags and untagged messages are rejected. -/
theorem other_tags_rejected (bs : Bytes) (h : ∀ rest, bs ≠ 0xd2 :: 0x84 :: rest) : decodeEnvelope bs = .err := by
  unfold decodeEnvelope
  split
  · rename_i rest; exact absurd rfl (h rest)
  · rfl

/-- an empty signature is rejected -/
theorem empty_signature_rejected (prot : Bytes) (un : List (Cbor × Cbor)) (pl : Cbor) :
    msgOfArray [.bstr prot, .map un, pl, .bstr []] = .err := by
  simp [msgOfArray]

-- non-vacuity: a minimal envelope the model accepts
example : (decodeEnvelope [0xd2, 0x84, 0x40, 0xa0, 0x41, 0xa0, 0x41, 0x01]) =
    .ok { prot := [], payload := some [0xa0], sig := [1] } := by decide

/-- **the verdict of a COSE decode does not depend on what the Evidence held before**, and neither does the state after
    a successful one: the claims are decoded afresh from the payload, through the dispatcher (map check included), never
    into claims the Evidence already holds -/
theorem unmarshal_history_free (u : Bytes → Dec Bytes) (extra : List Bytes) (e e' : Ev) (bs : Bytes) :
    (evUnmarshal u extra e bs).2 = (evUnmarshal u extra e' bs).2 ∧
    ((evUnmarshal u extra e bs).2 = .ok () → (evUnmarshal u extra e bs).1 = (evUnmarshal u extra e' bs).1) := by
  unfold evUnmarshal
  cases decodeEnvelope bs with
  | err | ood => simp
  | ok m =>
    cases hp : m.payload with
    | none => simp
    | some p => cases decodeClaims u extra p <;> simp

end Psa.Props.C20
