/-
  C08 — Validating entry points never let an invalid claims-set through.
  Property theorems, and the four gates that are not model functions already.  The gates are compositions of
  `validate`, the codecs and the Evidence operations exactly as iclaims.go / evidence.go compose them; the content of
  this property is in the tie (T3 runs every generated claims-set through the seven real gates).
-/
import Psa.Proofs.Evidence
import Psa.Model.Json
namespace Psa.Props.C08
open Psa Psa.Model

/-- `ValidateAndEncodeClaimsToCBOR` -/
def validateAndEncode (c : Claims) : Outcome Bytes :=
  match validate c with
  | .ok _ => encodeClaims c
  | .err m => .err m
  | .panic s => .panic s

/-- `ValidateAndEncodeClaimsToJSON` -/
def validateAndEncodeJSON (c : Claims) : Outcome Json :=
  match validate c with
  | .ok _ => encodeJSON c
  | .err m => .err m
  | .panic s => .panic s

/-- `DecodeAndValidateClaimsFromJSON` -/
def decodeAndValidateJSON (u : Bytes → Dec Bytes) (reg : List RegEntry) (j : Json) : Dec Claims :=
  (decodeClaimsJSON u reg j).bind fun c => match validate c with | .ok _ => .ok c | _ => .err

/-- `DecodeAndValidateEvidenceFromCOSE` -/
def decodeAndValidateEvidence (u : Bytes → Dec Bytes) (extra : List Bytes) (bs : Bytes) : Dec Ev :=
  match evUnmarshal u extra Ev.empty bs with
  | (e, .ok _) => (match e.claims with
    | some c => (match validate c with | .ok _ => .ok e | _ => .err)
    | none => .err)
  | (_, .err) => .err
  | (_, .ood) => .ood

/-- gate 1, SetClaims: fails whenever validation fails and then attaches nothing; otherwise
    attaches exactly the claims -/
theorem setClaims_gate (e : Ev) (c : Claims) :
    (validate c ≠ .ok () → (evSetClaims e c).2 ≠ .ok () ∧ (evSetClaims e c).1 = e) ∧
    (validate c = .ok () → evSetClaims e c = ({ e with claims := some c }, .ok ())) := by
  unfold evSetClaims
  cases h : validate c <;> simp

/-- gates 2 and 3: fail whenever validation fails (emitting no bytes), otherwise behave exactly
    like the non-validating encoder -/
theorem encode_gates (c : Claims) :
    (validate c ≠ .ok () → (∀ b, validateAndEncode c ≠ .ok b) ∧ (∀ j, validateAndEncodeJSON c ≠ .ok j)) ∧
    (validate c = .ok () → validateAndEncode c = encodeClaims c ∧ validateAndEncodeJSON c = encodeJSON c) := by
  unfold validateAndEncode validateAndEncodeJSON
  cases h : validate c <;> simp

/-- gate 4, ValidateAndSign: fails whenever validation fails, returning no token and leaving a
    fresh message (no signature, so it cannot verify: `C02.verify_needs_alg_payload_sig`); otherwise it is `Sign` -/
theorem sign_gate (w : World) (e : Ev) (c : Claims) (sg : Signer) (hc : e.claims = some c) :
    (validate c ≠ .ok () → (∀ t, (evSign true w e sg).2.2 ≠ .ok t) ∧ (evSign true w e sg).2.1.msg = some Msg.fresh ∧
        (evSign true w e sg).1 = w) ∧
    (validate c = .ok () → evSign true w e sg = evSign false w e sg) := by
  unfold evSign
  rw [hc]
  cases hv : validate c <;> simp [signPayload, hv, Outcome.bind]

/-- gates 5–7: decode-and-validate fails whenever the decoded claims-set fails validation
    (returning nothing), otherwise returns exactly what the non-validating decoder returns -/
theorem decode_gates (u : Bytes → Dec Bytes) (extra : List Bytes) (reg : List RegEntry) (bs : Bytes) (j : Json) :
    (∀ c, decodeClaims u extra bs = .ok c →
      (validate c ≠ .ok () → decodeAndValidate u extra bs = .err) ∧
      (validate c = .ok () → decodeAndValidate u extra bs = .ok c)) ∧
    (∀ c, decodeClaimsJSON u reg j = .ok c →
      (validate c ≠ .ok () → decodeAndValidateJSON u reg j = .err) ∧
      (validate c = .ok () → decodeAndValidateJSON u reg j = .ok c)) ∧
    (∀ e c, evUnmarshal u extra Ev.empty bs = (e, .ok ()) → e.claims = some c →
      (validate c ≠ .ok () → decodeAndValidateEvidence u extra bs = .err) ∧
      (validate c = .ok () → decodeAndValidateEvidence u extra bs = .ok e)) := by
  refine ⟨?_, ?_, ?_⟩
  · intro c hc
    unfold decodeAndValidate
    rw [hc]; simp only [Dec.bind]
    cases h : validate c <;> simp
  · intro c hc
    unfold decodeAndValidateJSON
    rw [hc]; simp only [Dec.bind]
    cases h : validate c <;> simp
  · intro e c he hc
    unfold decodeAndValidateEvidence
    rw [he]; simp only [hc]
    cases h : validate c <;> simp

/-- a decode failure is a gate failure too -/
theorem decode_gate_decode_failure (u : Bytes → Dec Bytes) (extra : List Bytes) (bs : Bytes)
    (h : decodeClaims u extra bs = .err) : decodeAndValidate u extra bs = .err := by
  unfold decodeAndValidate; rw [h]; rfl

end Psa.Props.C08
