/-
  C14 — Security-lifecycle values map to the specified state, totally.
  Property theorems only; helper lemmas live elsewhere.
  Quantifier: every lifecycle value, by arithmetic on the closed form of the table (`Spec.state_code`) — no
  enumeration.  The bound `v < 65536` in the statements is the type of the Go value (`uint16`); no proof uses it.
-/
import Psa.Model.Lifecycle
import Psa.Spec.Lifecycle
import Psa.Tie.Lifecycle
namespace Psa.Props.C14
open Psa

/-- The model's mapping is the specified table. -/
theorem lifecycle_spec (v : Nat) (h : v < 65536) :
    Model.lifeCycleToState v = (Spec.state v).code :=
  Proofs.lifeCycleToState_spec v

/-- The code regenerated from /repo on this run is the specified table. -/
theorem lifecycle_spec_generated (v : Nat) (h : v < 65536) :
    Generated.lifeCycleToState v = (Spec.state v).code :=
  Tie.gen_lifeCycleToState_spec v

/-- Totality: the mapping always lands on one of the eight declared states. -/
theorem lifecycle_total (v : Nat) (h : v < 65536) :
    ∃ s : Spec.LState, Generated.lifeCycleToState v = s.code :=
  ⟨Spec.state v, Tie.gen_lifeCycleToState_spec v⟩

/-- The validator accepts a value iff its state is not the invalid state. -/
theorem lifecycle_valid_iff (v : Nat) (h : v < 65536) :
    Model.validateSecurityLifeCycle v = .ok () ↔ Spec.state v ≠ .invalid := by
  rw [Proofs.validateSecurityLifeCycle_eq]; exact Proofs.check_ok_iff

theorem lifecycle_valid_iff_generated (v : Nat) (h : v < 65536) :
    Generated.validateSecurityLifeCycle v = .ok () ↔ Spec.state v ≠ .invalid := by
  rw [Tie.gen_validateSecurityLifeCycle_spec]; exact Proofs.check_ok_iff

/-- A rejected value is rejected with the wrong-syntax class. -/
theorem lifecycle_invalid_class (v : Nat) (h : v < 65536) (hs : Spec.state v = .invalid) :
    Model.validateSecurityLifeCycle v = .err eWrongSyntax := by
  rw [Proofs.validateSecurityLifeCycle_eq, if_neg (not_not_intro hs)]

/-- State names are the specified strings (model and regenerated code). -/
theorem state_names (s : Spec.LState) :
    Model.stateString s.code = s.name ∧ Generated.stateString s.code = s.name :=
  ⟨by cases s <;> rfl, Tie.gen_stateString_spec s⟩

/-- The seven ranges are exactly 256 values wide and start where specified. -/
theorem range_characterisation (v : Nat) (h : v < 65536) (k : Nat) (hk : k < 7) :
    (Spec.state v).code = k ↔ (k * 0x1000 ≤ v ∧ v ≤ k * 0x1000 + 0xff) := by
  rw [Spec.state_code]
  split <;> omega

-- non-vacuity: concrete values on both sides of a boundary
example : Spec.state 0x10ff = .assemblyAndTest ∧ Spec.state 0x1100 = .invalid ∧
          Spec.state 0x6000 = .decommissioned ∧ Spec.state 0x5fff = .invalid := by decide

end Psa.Props.C14

#print axioms Psa.Props.C14.lifecycle_spec
#print axioms Psa.Props.C14.lifecycle_spec_generated
#print axioms Psa.Props.C14.lifecycle_total
#print axioms Psa.Props.C14.lifecycle_valid_iff
#print axioms Psa.Props.C14.lifecycle_valid_iff_generated
#print axioms Psa.Props.C14.lifecycle_invalid_class
#print axioms Psa.Props.C14.state_names
#print axioms Psa.Props.C14.range_characterisation
