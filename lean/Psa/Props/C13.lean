/-
  C13 — Errors carry the documented sentinel class.
  Property theorems only.  Quantifier: every claims-set (any field values, any
  component list, nil entries included), every getter, every setter operation,
  every error tree (any depth, any mix of %w / %v / Join / custom Is-Unwrap).
-/
import Psa.Proofs.Setters
import Psa.Tie.Funcs
namespace Psa.Props.C13
open Psa Psa.Model Psa.Spec Psa.Proofs

/-- An absent mandatory claim yields exactly the missing-mandatory class. -/
theorem absent_mandatory (g : Getter) (c : Claims) (h : Absent g c) (hm : Mandatory c.prof g = true)
    (hx : ¬ (g = .profile ∧ c.prof = .p1)) :
    Model.get g c = .err eMissingMandatory := by
  simpa [hm] using absent_class g c h hx

/-- An absent optional claim yields exactly the missing-optional class … -/
theorem absent_optional (g : Getter) (c : Claims) (h : Absent g c) (hm : Mandatory c.prof g = false) :
    Model.get g c = .err eMissingOptional := by
  simpa [hm] using absent_class g c h (by rintro ⟨rfl, _⟩; simp [Mandatory] at hm)

/-- … which validation ignores. -/
theorem missing_optional_ignored (g : Getter) (c : Claims) (h : Model.get g c = .err eMissingOptional) :
    filterError (Model.get g c) = .ok () := by
  rw [h]; rfl

/-- A present but malformed value yields the wrong-syntax class; a profile mismatch the
    wrong-profile class.  (For the component list the class is that of the offending component:
    wrong-syntax for a malformed hash, missing-mandatory for an absent mandatory field.) -/
theorem malformed_class (g : Getter) (c : Claims) (m : ErrMask) (hne : ¬ Absent g c)
    (hp : c.profile ≠ some .invalid) (h : Model.get g c = .err m) :
    (g = .profile → m = eWrongProfile) ∧
    (g ≠ .profile → m = eWrongSyntax ∨ (g = .sw ∧ m = eMissingMandatory)) :=
  present_err_class g c m hne hp h

/-- Every getter error is classifiable: its mask is exactly one of the four documented classes. -/
theorem getter_error_classified (g : Getter) (c : Claims) (m : ErrMask) (hp : c.profile ≠ some .invalid)
    (h : Model.get g c = .err m) :
    m = eMissingMandatory ∨ m = eMissingOptional ∨ m = eWrongSyntax ∨ m = eWrongProfile := by
  have := get_answers g c
  rw [h] at this
  rcases this with ⟨_, rfl, _⟩ | ⟨hn, _, _⟩
  · cases Mandatory c.prof g <;> simp
  · have := present_err_class g c m hn hp h
    by_cases hg : g = .profile
    · exact Or.inr (Or.inr (Or.inr (this.1 hg)))
    · rcases this.2 hg with h' | ⟨_, h'⟩
      · exact Or.inr (Or.inr (Or.inl h'))
      · exact Or.inl h'

/-- Validation reports the class of an offending claim, unchanged
    by the wrapping, and never a filtered (missing-optional / not-in-profile) class. -/
theorem validate_error_class (c : Claims) (m : ErrMask) (h : validate c = .err m) :
    ∃ g, Model.get g c = .err m ∧ filtered m = false := by
  obtain ⟨g, _, hg⟩ := validateWith_err _ c m h
  exact ⟨g, hg⟩

theorem validate_error_class_any_order (o : List Getter) (c : Claims) (m : ErrMask)
    (h : validateWith o c = .err m) : ∃ g ∈ o, Model.get g c = .err m ∧ filtered m = false :=
  validateWith_err o c m h

/-- Setter errors: wrong-syntax, or for the component list the class of the offending component. -/
theorem setter_error_class (c : Claims) (op : SetOp) (m : ErrMask) (h : (applySet c op).2 = .err m) :
    m = eWrongSyntax ∨ (∃ l, op = .sw l) ∧ m = eMissingMandatory := by
  rcases applySet_cases c op with ⟨_, h'⟩ | ⟨_, m', h', hm⟩ <;> rw [h'] at h <;> cases h
  exact hm

/-- The validators regenerated from /repo on this run reject with the wrong-syntax class
    (a `%w` turned into `%v` changes the translated class and breaks these). -/
theorem generated_validator_classes (v : Bytes) (s : String) :
    (Generated.validateImplID v = .ok () ∨ Generated.validateImplID v = .err eWrongSyntax) ∧
    (Generated.validatePSAHashType v = .ok () ∨ Generated.validatePSAHashType v = .err eWrongSyntax) ∧
    (Generated.validateNonce v = .ok () ∨ Generated.validateNonce v = .err eWrongSyntax) ∧
    (Generated.validateInstID v = .ok () ∨ Generated.validateInstID v = .err eWrongSyntax) ∧
    (Generated.validateVSI s = .ok () ∨ Generated.validateVSI s = .err eWrongSyntax) := by
  rw [Tie.gen_validateImplID_spec, Tie.gen_validatePSAHashType_spec, Tie.gen_validateNonce_spec,
    Tie.gen_validateInstID_spec, Tie.gen_validateVSI_spec]
  refine ⟨?_, ?_, ?_, ?_, ?_⟩ <;> split <;> simp

/-! ### the error filter -/

/-- `FilterError` returns nil exactly for nil, missing-optional and not-in-profile errors … -/
theorem filter_nil_iff (e : Option GoErr) :
    filterGoErr e = none ↔ e = none ∨ ∃ x, e = some x ∧ (x.is .missingOptional = true ∨ x.is .notInProfile = true) := by
  cases e with
  | none => simp [filterGoErr]
  | some x => simp only [filterGoErr]; split <;> simp_all

/-- … and returns every other error unchanged. -/
theorem filter_unchanged (e : Option GoErr) (h : filterGoErr e ≠ none) : filterGoErr e = e := by
  cases e with
  | none => simp [filterGoErr] at h
  | some x => simp only [filterGoErr] at h ⊢; split <;> simp_all

/-- The mask-level filter used by the claims model is the tree-level filter. -/
theorem filter_mask_agrees (x : GoErr) : filtered x.mask = true ↔ filterGoErr (some x) = none := by
  rw [filtered_mask]; simp only [filterGoErr]; split <;> simp_all

/-- `%w` keeps the class, `%v` loses it — at any depth. -/
theorem wrapW_keeps_class (x : GoErr) (s : Sentinel) : (GoErr.wrapW x).is s = x.is s := by
  simp [GoErr.is]
theorem wrapV_loses_class (x : GoErr) (s : Sentinel) : (GoErr.wrapV x).is s = false := by
  simp [GoErr.is]
theorem wrapW_mask (x : GoErr) : (GoErr.wrapW x).mask = x.mask := by
  unfold GoErr.mask
  simp only [wrapW_keeps_class]

-- non-vacuity
example : Model.get .bootSeed { Claims.new .p1 with bootSeed := some [1] } = .err eWrongSyntax := by decide
example : Model.get .bootSeed (Claims.new .p2) = .err eMissingOptional := by decide
example : filterGoErr (some (.join [.opaque, .wrapW (.custom .notInProfile none)])) = none := by
  simp [filterGoErr, GoErr.is, GoErr.isAny]
example : filterGoErr (some (.wrapV (.sentinel .missingOptional))) = some (.wrapV (.sentinel .missingOptional)) := by
  simp [filterGoErr, GoErr.is]

/-- the stand-alone `ValidateHashAlgID` (the regenerated code): the nine admitted names are accepted, everything else is
    refused with the wrong-syntax class and nothing else -/
theorem hash_alg_id_class (v : String) :
    (v ∈ Tie.hashAlgNames → Generated.validateHashAlgID v = .ok ()) ∧
    (v ∉ Tie.hashAlgNames → Generated.validateHashAlgID v = .err eWrongSyntax) := by
  rw [Tie.gen_validateHashAlgID_spec]
  constructor <;> intro h <;> simp [h]

end Psa.Props.C13
