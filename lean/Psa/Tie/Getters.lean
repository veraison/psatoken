/-
  T1 for the claim getters and, in the second half, the setters: the getters of `P1Claims`, `P2Claims` and `SwComponent`
  that depend on one field of their receiver, as regenerated from /repo (`Psa/Generated/Getters.lean`), are the model's
  getters; the regenerated verdict of a setter is the verdict of the model's `applySet` / `applyCompSet`. The three getters that
  go through other types' code (`GetProfile`, `GetSoftwareComponents`, profile 2's `GetNonce` over `eat.Nonce`) stay
  tied by facts and correspondence only.  The model being written in the shape of the Go code, each equation holds by
  unfolding (`rfl`, once the profile is fixed where the model's function branches on it): nothing short of the same
  function passes.
-/
import Psa.Generated.Getters
import Psa.Model.Claims
import Psa.Model.Setters
namespace Psa.Tie.Getters
open Psa Psa.Model

theorem clientId_p1 (c : Claims) : Generated.p1GetClientID c.clientId = Model.get .clientId c := rfl
theorem clientId_p2 (c : Claims) : Generated.p2GetClientID c.clientId = Model.get .clientId c := rfl

theorem lifecycle_p1 (c : Claims) : Generated.p1GetSecurityLifeCycle c.lifecycle = Model.get .lifecycle c := rfl
theorem lifecycle_p2 (c : Claims) : Generated.p2GetSecurityLifeCycle c.lifecycle = Model.get .lifecycle c := rfl

theorem implId_p1 (c : Claims) : Generated.p1GetImplID c.implId = Model.get .implId c := rfl
theorem implId_p2 (c : Claims) : Generated.p2GetImplID c.implId = Model.get .implId c := rfl

theorem bootSeed_p1 (c : Claims) (hp : c.prof = .p1) : Generated.p1GetBootSeed c.bootSeed = Model.get .bootSeed c := by
  cases c; cases hp; rfl
theorem bootSeed_p2 (c : Claims) (hp : c.prof = .p2) : Generated.p2GetBootSeed c.bootSeed = Model.get .bootSeed c := by
  cases c; cases hp; rfl

theorem certRef_p1 (c : Claims) (hp : c.prof = .p1) :
    Generated.p1GetCertificationReference c.certRef = Model.get .certRef c := by
  cases c; cases hp; rfl
theorem certRef_p2 (c : Claims) (hp : c.prof = .p2) :
    Generated.p2GetCertificationReference c.certRef = Model.get .certRef c := by
  cases c; cases hp; rfl

/-- profile 1 holds one nonce (`*[]byte`); the model's list form of it is `some [n]` -/
theorem nonce_p1 (c : Claims) (n : Option Bytes) (h : c.nonce = n.map fun b => [b]) :
    Generated.p1GetNonce n = Model.get .nonce c := by
  cases c; cases h; cases n <;> rfl

theorem instId_p1 (c : Claims) : Generated.p1GetInstID c.instId = Model.get .instId c := rfl
theorem instId_p2 (c : Claims) : Generated.p2GetInstID c.instId = Model.get .instId c := rfl

theorem vsi_p1 (c : Claims) : Generated.p1GetVSI c.vsi = Model.get .vsi c := rfl
theorem vsi_p2 (c : Claims) : Generated.p2GetVSI c.vsi = Model.get .vsi c := rfl

theorem comp_mval (sc : SwComp) :
    Generated.compGetMeasurementValue sc.mval = (sc.getMeasurementValue).bind fun b => .ok (.bytes b) := by
  simp only [SwComp.getMeasurementValue, Generated.compGetMeasurementValue]
  cases sc.mval with
  | none => rfl
  | some v => dsimp only; cases validatePSAHashType v <;> rfl
theorem comp_signer (sc : SwComp) :
    Generated.compGetSignerID sc.signer = (sc.getSignerID).bind fun b => .ok (.bytes b) := by
  simp only [SwComp.getSignerID, Generated.compGetSignerID]
  cases sc.signer with
  | none => rfl
  | some v => dsimp only; cases validatePSAHashType v <;> rfl

/-! ### setters: the regenerated verdict decides, the one assignment follows

`eff r c c'`: what a setter whose regenerated body yields `r` does to the claims-set `c`, `c'` being `c` with the field
assigned (the translator has checked that `<recv>.<Field> = &v; return nil` is all that follows the validations). -/

def eff {α} (r : Outcome Unit) (c c' : α) : α × Outcome Unit :=
  match r with
  | .ok _ => (c', .ok ())
  | .err m => (c, .err m)
  | .panic s => (c, .panic s)

/-- a setter that only calls a validator … -/
theorem eff_bind {α} (x : Outcome Unit) (c c' : α) :
    eff (x.bind fun _ => .ok ()) c c' = match x with | .ok _ => (c', .ok ()) | e => (c, e) := by
  cases x <;> rfl

/-- … and one with its test written out -/
theorem eff_ite {α} (b : Prop) [Decidable b] (m : ErrMask) (c c' : α) :
    eff (if b then .err m else .ok ()) c c' = if b then (c, .err m) else (c', .ok ()) := by
  split <;> rfl

theorem set_clientId_p1 (c : Claims) (v : Int) :
    applySet c (.clientId v) = eff (Generated.p1SetClientID v) c { c with clientId := some v } := rfl
theorem set_clientId_p2 (c : Claims) (v : Int) :
    applySet c (.clientId v) = eff (Generated.p2SetClientID v) c { c with clientId := some v } := rfl

theorem set_lifecycle_p1 (c : Claims) (v : Nat) :
    applySet c (.lifecycle v) = eff (Generated.p1SetSecurityLifeCycle v) c { c with lifecycle := some v } :=
  (eff_bind _ _ _).symm
theorem set_lifecycle_p2 (c : Claims) (v : Nat) :
    applySet c (.lifecycle v) = eff (Generated.p2SetSecurityLifeCycle v) c { c with lifecycle := some v } :=
  (eff_bind _ _ _).symm

theorem set_implId_p1 (c : Claims) (v : Bytes) :
    applySet c (.implId v) = eff (Generated.p1SetImplID v) c { c with implId := some v } :=
  (eff_bind _ _ _).symm
theorem set_implId_p2 (c : Claims) (v : Bytes) :
    applySet c (.implId v) = eff (Generated.p2SetImplID v) c { c with implId := some v } :=
  (eff_bind _ _ _).symm

theorem set_bootSeed_p1 (c : Claims) (v : Bytes) (hp : c.prof = .p1) :
    applySet c (.bootSeed v) = eff (Generated.p1SetBootSeed v) c { c with bootSeed := some v } := by
  cases c; cases hp; exact (eff_ite _ _ _ _).symm
theorem set_bootSeed_p2 (c : Claims) (v : Bytes) (hp : c.prof = .p2) :
    applySet c (.bootSeed v) = eff (Generated.p2SetBootSeed v) c { c with bootSeed := some v } := by
  cases c; cases hp; exact (eff_ite _ _ _ _).symm

theorem set_certRef_p1 (c : Claims) (v : Bytes) (hp : c.prof = .p1) :
    applySet c (.certRef v) = eff (Generated.p1SetCertificationReference v) c { c with certRef := some v } := by
  cases c; cases hp; exact (eff_ite _ _ _ _).symm
theorem set_certRef_p2 (c : Claims) (v : Bytes) (hp : c.prof = .p2) :
    applySet c (.certRef v) = eff (Generated.p2SetCertificationReference v) c { c with certRef := some v } := by
  cases c; cases hp; exact (eff_ite _ _ _ _).symm

theorem set_nonce_p1 (c : Claims) (v : Bytes) :
    applySet c (.nonce v) = eff (Generated.p1SetNonce v) c { c with nonce := some [v] } :=
  (eff_bind _ _ _).symm

theorem set_instId_p1 (c : Claims) (v : Bytes) :
    applySet c (.instId v) = eff (Generated.p1SetInstID v) c { c with instId := some v } :=
  (eff_bind _ _ _).symm

theorem set_vsi_p1 (c : Claims) (v : Bytes) :
    applySet c (.vsi v) = eff (Generated.p1SetVSI v) c { c with vsi := some v } :=
  (eff_bind _ _ _).symm
theorem set_vsi_p2 (c : Claims) (v : Bytes) :
    applySet c (.vsi v) = eff (Generated.p2SetVSI v) c { c with vsi := some v } :=
  (eff_bind _ _ _).symm

theorem comp_set_mval (sc : SwComp) (v : Bytes) :
    applyCompSet sc (.mval v) = eff (Generated.compSetMeasurementValue v) sc { sc with mval := some v } :=
  (eff_bind _ _ _).symm
theorem comp_set_signer (sc : SwComp) (v : Bytes) :
    applyCompSet sc (.signer v) = eff (Generated.compSetSignerID v) sc { sc with signer := some v } :=
  (eff_bind _ _ _).symm
theorem comp_set_mtype (sc : SwComp) (v : Bytes) :
    applyCompSet sc (.mtype v) = eff (Generated.compSetMeasurementType v) sc { sc with mtype := some v } := rfl
theorem comp_set_version (sc : SwComp) (v : Bytes) :
    applyCompSet sc (.version v) = eff (Generated.compSetVersion v) sc { sc with version := some v } := rfl
theorem comp_set_mdesc (sc : SwComp) (v : Bytes) :
    applyCompSet sc (.mdesc v) = eff (Generated.compSetMeasurementDesc v) sc { sc with mdesc := some v } := rfl

end Psa.Tie.Getters
