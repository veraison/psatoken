/-
  Tie T2 (constants, profile names, certification-reference patterns, getter coverage of the validation walks).
  Sweeps over a whole table are closed by `decide +kernel`: the kernel
  evaluates the check once, where plain `decide` has the elaborator evaluate it first at about twice the price.
-/
import Psa.Generated.Facts
namespace Psa.Tie.Facts
open Psa Psa.Generated

theorem implIDLen : List.lookup "ImplIDLen" Facts.intConsts = some 32 := by decide
theorem instIDLen : List.lookup "InstIDLen" Facts.intConsts = some 33 := by decide
theorem lifecycle_bounds :
    [ "SecurityLifecycleUnknownMin", "SecurityLifecycleUnknownMax",
      "SecurityLifecycleAssemblyAndTestMin", "SecurityLifecycleAssemblyAndTestMax",
      "SecurityLifecyclePsaRotProvisioningMin", "SecurityLifecyclePsaRotProvisioningMax",
      "SecurityLifecycleSecuredMin", "SecurityLifecycleSecuredMax",
      "SecurityLifecycleNonPsaRotDebugMin", "SecurityLifecycleNonPsaRotDebugMax",
      "SecurityLifecycleRecoverablePsaRotDebugMin", "SecurityLifecycleRecoverablePsaRotDebugMax",
      "SecurityLifecycleDecommissionedMin", "SecurityLifecycleDecommissionedMax" ].map (fun k => List.lookup k Facts.intConsts)
    = [some 0x0000, some 0x00ff, some 0x1000, some 0x10ff, some 0x2000, some 0x20ff, some 0x3000, some 0x30ff,
       some 0x4000, some 0x40ff, some 0x5000, some 0x50ff, some 0x6000, some 0x60ff] := by decide +kernel
theorem state_codes :
    ["StateUnknown", "StateAssemblyAndTest", "StatePSAROTProvisioning", "StateSecured", "StateNonPSAROTDebug",
     "StateRecoverablePSAROTDebug", "StateDecommissioned", "StateInvalid"].map (fun k => List.lookup k Facts.intConsts)
    = [some 0, some 1, some 2, some 3, some 4, some 5, some 6, some 7] := by decide +kernel
theorem profile1Name : Facts.profile1Name = "PSA_IOT_PROFILE_1" := rfl
theorem profile2Name : Facts.profile2Name = "http://arm.com/psa/2.0.0" := rfl

theorem certRefP1RE : Facts.certificationReferenceP1RE =
    some { anchoredStart := true, anchoredEnd := true, items := [("digit", 13)] } := rfl
theorem certRefP2RE : Facts.certificationReferenceP2RE =
    some { anchoredStart := true, anchoredEnd := true, items := [("digit", 13), ("lit:-", 1), ("digit", 5)] } := rfl

/-! ### getter coverage of the two validation walks (order is irrelevant: C01.validate_order_irrelevant) -/
theorem validateClaims_covers :
    ∀ g ∈ ["GetProfile", "GetClientID", "GetSecurityLifeCycle", "GetImplID", "GetBootSeed",
           "GetCertificationReference", "GetSoftwareComponents", "GetNonce", "GetInstID", "GetVSI"],
      g ∈ Facts.validateClaimsOrder := by decide +kernel
theorem validateSwComponent_covers :
    ∀ g ∈ ["GetMeasurementType", "GetMeasurementValue", "GetVersion", "GetSignerID", "GetMeasurementDesc"],
      g ∈ Facts.validateSwComponentOrder := by decide +kernel

end Psa.Tie.Facts
