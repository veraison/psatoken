/-
  Tie T2 (package-level state is written only by registration; read-side methods cannot write their caller's object).
  Sweeps over a whole table are closed by `decide +kernel`: the kernel
  evaluates the check once, where plain `decide` has the elaborator evaluate it first at about twice the price.
-/
import Psa.Generated.Facts
namespace Psa.Tie.Facts
open Psa Psa.Generated

theorem globalWriters : Facts.globalWriters = [("psatoken", "RegisterProfile+init", "profilesRegister")] := rfl

def readSide : List (String × String) :=
  [("Evidence", "Verify"), ("Evidence", "GetInstanceID"), ("Evidence", "GetImplementationID"), ("Evidence", "MarshalJSON"),
   ("P1Claims", "Validate"), ("P1Claims", "MarshalCBOR"), ("P1Claims", "MarshalJSON"),
   ("P1Claims", "GetProfile"), ("P1Claims", "GetClientID"), ("P1Claims", "GetSecurityLifeCycle"), ("P1Claims", "GetImplID"),
   ("P1Claims", "GetBootSeed"), ("P1Claims", "GetCertificationReference"), ("P1Claims", "GetSoftwareComponents"),
   ("P1Claims", "GetNonce"), ("P1Claims", "GetInstID"), ("P1Claims", "GetVSI"),
   ("P2Claims", "Validate"),
   ("P2Claims", "GetProfile"), ("P2Claims", "GetClientID"), ("P2Claims", "GetSecurityLifeCycle"), ("P2Claims", "GetImplID"),
   ("P2Claims", "GetBootSeed"), ("P2Claims", "GetCertificationReference"), ("P2Claims", "GetSoftwareComponents"),
   ("P2Claims", "GetNonce"), ("P2Claims", "GetInstID"), ("P2Claims", "GetVSI"),
   ("SwComponent", "Validate"), ("SwComponent", "GetMeasurementType"), ("SwComponent", "GetMeasurementValue"),
   ("SwComponent", "GetVersion"), ("SwComponent", "GetSignerID"), ("SwComponent", "GetMeasurementDesc"),
   ("SwComponents", "Validate"), ("SwComponents", "Values"), ("SwComponents", "IsEmpty"),
   ("SwComponents", "MarshalCBOR"), ("SwComponents", "MarshalJSON")]

theorem readside_exist :
    ∀ rm ∈ readSide, Facts.methods.any (fun m => m.recv == rm.1 && m.name == rm.2) = true := by decide +kernel

theorem readside_pointer_methods_assign_nothing :
    ∀ m ∈ Facts.methods, (m.recv, m.name) ∈ readSide → m.pointer = true → m.assigns = [] := by decide +kernel

/-- value-receiver read-side methods may normalise their private copy only -/
theorem readside_value_methods_own_copy :
    ∀ m ∈ Facts.methods, (m.recv, m.name) ∈ readSide → m.assigns ≠ [] → m.pointer = false :=
  fun m hm hr ha => Bool.eq_false_iff.2 fun hp => ha (readside_pointer_methods_assign_nothing m hm hr hp)

end Psa.Tie.Facts
