/-
  Tie T2 (the encoding package: no allocation sized from the input; the definite/indefinite test).
-/
import Psa.Generated.Facts
namespace Psa.Tie.Facts
open Psa Psa.Generated

/-- the only `make` calls with a size are sized from slices already in memory — none from a length a sender declares,
    and none anywhere in the encoding package -/
theorem sized_makes : Facts.sizedMakes =
    [("psatoken", "SwComponents.Values", "len(o.values)"), ("psatoken", "validateAndConvert", "len(vals)")] := rfl

/-- `FromCBOR` takes the definite-length branch exactly when the additional information is not 31 -/
theorem fromCBOR_indefinite_test : Facts.fromCBORIndefiniteTest = "additionalInfo!=31" := rfl

end Psa.Tie.Facts
