/-
  Tie T2 (the envelope: external AAD, algorithm source, fresh message first).
-/
import Psa.Generated.Facts
namespace Psa.Tie.Facts
open Psa Psa.Generated

theorem aad_sign_eq_verify : Facts.signAAD = Facts.verifyAAD ∧ Facts.signAAD ≠ none := ⟨rfl, nofun⟩
theorem aad_empty : Facts.signAAD = some "[]byte(\"\")" := rfl
theorem verify_alg_from_protected : Facts.verifyAlgSource = "e.message.Headers.Protected" := rfl
theorem fresh_message_first :
    Facts.firstStmtSign = "e.message = cose.NewSign1Message()" ∧
    Facts.firstStmtValidateAndSign = "e.message = cose.NewSign1Message()" ∧
    Facts.firstStmtUnmarshalCOSE = "e.message = cose.NewSign1Message()" := ⟨rfl, rfl, rfl⟩

end Psa.Tie.Facts
