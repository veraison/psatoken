/-
  Tie T2 (struct tags (CBOR keys, Go types, omitempty, JSON names) and codec options).
-/
import Psa.Generated.Facts
namespace Psa.Tie.Facts
open Psa Psa.Generated

theorem fieldsP1Claims : Facts.fieldsP1Claims = [
  { name := "Profile", goType := "*string", cborKey := (-75000), keyAsInt := true, cborOmitEmpty := true, cborSkip := false, jsonName := "psa-profile", jsonOmitEmpty := true, jsonSkip := false },
  { name := "ClientID", goType := "*int32", cborKey := (-75001), keyAsInt := true, cborOmitEmpty := false, cborSkip := false, jsonName := "psa-client-id", jsonOmitEmpty := false, jsonSkip := false },
  { name := "SecurityLifeCycle", goType := "*uint16", cborKey := (-75002), keyAsInt := true, cborOmitEmpty := false, cborSkip := false, jsonName := "psa-security-lifecycle", jsonOmitEmpty := false, jsonSkip := false },
  { name := "ImplID", goType := "*[]byte", cborKey := (-75003), keyAsInt := true, cborOmitEmpty := false, cborSkip := false, jsonName := "psa-implementation-id", jsonOmitEmpty := false, jsonSkip := false },
  { name := "BootSeed", goType := "*[]byte", cborKey := (-75004), keyAsInt := true, cborOmitEmpty := false, cborSkip := false, jsonName := "psa-boot-seed", jsonOmitEmpty := false, jsonSkip := false },
  { name := "CertificationReference", goType := "*string", cborKey := (-75005), keyAsInt := true, cborOmitEmpty := true, cborSkip := false, jsonName := "psa-hwver", jsonOmitEmpty := true, jsonSkip := false },
  { name := "SwComponents", goType := "ISwComponents", cborKey := (-75006), keyAsInt := true, cborOmitEmpty := true, cborSkip := false, jsonName := "psa-software-components", jsonOmitEmpty := true, jsonSkip := false },
  { name := "NoSwMeasurements", goType := "*uint", cborKey := (-75007), keyAsInt := true, cborOmitEmpty := true, cborSkip := false, jsonName := "psa-no-software-measurements", jsonOmitEmpty := true, jsonSkip := false },
  { name := "Nonce", goType := "*[]byte", cborKey := (-75008), keyAsInt := true, cborOmitEmpty := false, cborSkip := false, jsonName := "psa-nonce", jsonOmitEmpty := false, jsonSkip := false },
  { name := "InstID", goType := "*[]byte", cborKey := (-75009), keyAsInt := true, cborOmitEmpty := false, cborSkip := false, jsonName := "psa-instance-id", jsonOmitEmpty := false, jsonSkip := false },
  { name := "VSI", goType := "*string", cborKey := (-75010), keyAsInt := true, cborOmitEmpty := true, cborSkip := false, jsonName := "psa-verification-service-indicator", jsonOmitEmpty := true, jsonSkip := false },
  { name := "CanonicalProfile", goType := "string", cborKey := 0, keyAsInt := false, cborOmitEmpty := false, cborSkip := true, jsonName := "-", jsonOmitEmpty := false, jsonSkip := true }
] := rfl
theorem fieldsP2Claims : Facts.fieldsP2Claims = [
  { name := "Profile", goType := "*eat.Profile", cborKey := (265), keyAsInt := true, cborOmitEmpty := false, cborSkip := false, jsonName := "eat-profile", jsonOmitEmpty := false, jsonSkip := false },
  { name := "ClientID", goType := "*int32", cborKey := (2394), keyAsInt := true, cborOmitEmpty := false, cborSkip := false, jsonName := "psa-client-id", jsonOmitEmpty := false, jsonSkip := false },
  { name := "SecurityLifeCycle", goType := "*uint16", cborKey := (2395), keyAsInt := true, cborOmitEmpty := false, cborSkip := false, jsonName := "psa-security-lifecycle", jsonOmitEmpty := false, jsonSkip := false },
  { name := "ImplID", goType := "*[]byte", cborKey := (2396), keyAsInt := true, cborOmitEmpty := false, cborSkip := false, jsonName := "psa-implementation-id", jsonOmitEmpty := false, jsonSkip := false },
  { name := "BootSeed", goType := "*[]byte", cborKey := (2397), keyAsInt := true, cborOmitEmpty := true, cborSkip := false, jsonName := "psa-boot-seed", jsonOmitEmpty := true, jsonSkip := false },
  { name := "CertificationReference", goType := "*string", cborKey := (2398), keyAsInt := true, cborOmitEmpty := true, cborSkip := false, jsonName := "psa-certification-reference", jsonOmitEmpty := true, jsonSkip := false },
  { name := "SwComponents", goType := "ISwComponents", cborKey := (2399), keyAsInt := true, cborOmitEmpty := false, cborSkip := false, jsonName := "psa-software-components", jsonOmitEmpty := false, jsonSkip := false },
  { name := "Nonce", goType := "*eat.Nonce", cborKey := (10), keyAsInt := true, cborOmitEmpty := false, cborSkip := false, jsonName := "psa-nonce", jsonOmitEmpty := false, jsonSkip := false },
  { name := "InstID", goType := "*eat.UEID", cborKey := (256), keyAsInt := true, cborOmitEmpty := false, cborSkip := false, jsonName := "psa-instance-id", jsonOmitEmpty := false, jsonSkip := false },
  { name := "VSI", goType := "*string", cborKey := (2400), keyAsInt := true, cborOmitEmpty := true, cborSkip := false, jsonName := "psa-verification-service-indicator", jsonOmitEmpty := true, jsonSkip := false },
  { name := "CanonicalProfile", goType := "string", cborKey := 0, keyAsInt := false, cborOmitEmpty := false, cborSkip := true, jsonName := "-", jsonOmitEmpty := false, jsonSkip := true }
] := rfl
theorem fieldsSwComponent : Facts.fieldsSwComponent = [
  { name := "MeasurementType", goType := "*string", cborKey := (1), keyAsInt := true, cborOmitEmpty := true, cborSkip := false, jsonName := "measurement-type", jsonOmitEmpty := true, jsonSkip := false },
  { name := "MeasurementValue", goType := "*[]byte", cborKey := (2), keyAsInt := true, cborOmitEmpty := false, cborSkip := false, jsonName := "measurement-value", jsonOmitEmpty := false, jsonSkip := false },
  { name := "Version", goType := "*string", cborKey := (4), keyAsInt := true, cborOmitEmpty := true, cborSkip := false, jsonName := "version", jsonOmitEmpty := true, jsonSkip := false },
  { name := "SignerID", goType := "*[]byte", cborKey := (5), keyAsInt := true, cborOmitEmpty := false, cborSkip := false, jsonName := "signer-id", jsonOmitEmpty := false, jsonSkip := false },
  { name := "MeasurementDesc", goType := "*string", cborKey := (6), keyAsInt := true, cborOmitEmpty := true, cborSkip := false, jsonName := "measurement-description", jsonOmitEmpty := true, jsonSkip := false }
] := rfl

theorem encOptions_indefForbidden : ("IndefLength", "cbor.IndefLengthForbidden") ∈ Facts.encOptions := .head _
theorem decOptions_indefForbidden : ("IndefLength", "cbor.IndefLengthForbidden") ∈ Facts.decOptions := .head _

end Psa.Tie.Facts
