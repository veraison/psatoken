/-
  Tie T1 for the `Validate*` family of claims_common.go: the definitions
  regenerated from the Go source on this run satisfy the specification of each
  validator (accepts exactly …, rejects with the wrong-syntax class, never
  panics), and therefore coincide with the hand-written model the property
  theorems are about.  Where the model has the same validator, the specification
  is an instance of the lemma that gives the model's (`Proofs.ite_bne`,
  `ite_hashLen`, `instID_test`), the two applying the same test, and the script
  does not mention the generated text; `validateVSI` and `validateHashAlgID`
  (strings, not byte slices) are unfolded.
-/
import Psa.Generated.Funcs
import Psa.Proofs.Claims
namespace Psa.Tie
open Psa

theorem gen_validateImplID_spec (v : Bytes) :
    Generated.validateImplID v = if v.length = 32 then .ok () else .err eWrongSyntax :=
  Proofs.ite_bne _ _ _ _

theorem gen_validatePSAHashType_spec (v : Bytes) :
    Generated.validatePSAHashType v =
      if v.length = 32 ∨ v.length = 48 ∨ v.length = 64 then .ok () else .err eWrongSyntax :=
  Proofs.ite_hashLen _ _ _

theorem gen_validateNonce_spec (v : Bytes) :
    Generated.validateNonce v =
      if v.length = 32 ∨ v.length = 48 ∨ v.length = 64 then .ok () else .err eWrongSyntax :=
  gen_validatePSAHashType_spec v

theorem gen_validateInstID_spec (v : Bytes) :
    Generated.validateInstID v =
      if v.length = 33 ∧ v.head? = some 1 then .ok () else .err eWrongSyntax :=
  Proofs.instID_test _ v

theorem gen_validateVSI_spec (s : String) :
    Generated.validateVSI s = if s = "" then .err eWrongSyntax else .ok () := by
  unfold Generated.validateVSI
  simp only [beq_iff_eq]; rfl

/-! the hand-written model satisfies the same specifications (`Proofs.validate*_eq`), hence equals the generated code -/

theorem gen_validateImplID_eq (v : Bytes) : Generated.validateImplID v = Model.validateImplID v := by
  rw [gen_validateImplID_spec, Proofs.validateImplID_eq]

theorem gen_validatePSAHashType_eq (v : Bytes) :
    Generated.validatePSAHashType v = Model.validatePSAHashType v := by
  rw [gen_validatePSAHashType_spec, Proofs.validatePSAHashType_eq]

theorem gen_validateNonce_eq (v : Bytes) : Generated.validateNonce v = Model.validateNonce v := by
  unfold Generated.validateNonce Model.validateNonce; exact gen_validatePSAHashType_eq v

theorem gen_validateInstID_eq (v : Bytes) : Generated.validateInstID v = Model.validateInstID v := by
  rw [gen_validateInstID_spec, Proofs.validateInstID_eq]

/-- no character encodes to nothing -/
theorem strBytes_nil (s : String) : strBytes s = [] ↔ s = "" := by
  rw [strBytes, List.flatMap_eq_nil_iff, ← String.toList_eq_nil_iff, List.eq_nil_iff_forall_not_mem]
  simp only [String.utf8EncodeChar_ne_nil, imp_false]

/-- Go strings are byte sequences in the model -/
theorem gen_validateVSI_eq (s : String) : Generated.validateVSI s = Model.validateVSI (strBytes s) := by
  rw [gen_validateVSI_spec, Proofs.validateVSI_eq]
  simp only [ne_eq, strBytes_nil, ite_not]

/-- the nine IANA hash-function names PSA admits -/
def hashAlgNames : List String := ["md2", "md5", "sha-1", "sha-224", "sha-256", "sha-384", "sha-512", "shake128", "shake256"]

/-- `ValidateHashAlgID` (regenerated code): accepts exactly the nine names, every refusal is of the wrong-syntax class -/
theorem gen_validateHashAlgID_spec (v : String) :
    Generated.validateHashAlgID v = (if v ∈ hashAlgNames then .ok () else .err eWrongSyntax) := by
  unfold Generated.validateHashAlgID hashAlgNames
  by_cases h0 : v = ""
  · subst h0; decide
  · simp only [beq_iff_eq, h0, if_false, Bool.or_eq_true, List.mem_cons, List.mem_nil_iff, or_false, or_assoc]
    rfl

end Psa.Tie
