/-
  Tie T2, all topics: facts read off /repo's source on this run (Psa/Generated/Facts.lean) equal the values the model
  was written against.  One named theorem per fact, so a broken tie names the fact; one module per topic under
  Psa/Tie/Facts/, so a property is tied only to the facts its theorems rest on (the checks import the topic modules;
  this file is the umbrella).
-/
import Psa.Tie.Facts.Consts
import Psa.Tie.Facts.Fields
import Psa.Tie.Facts.Envelope
import Psa.Tie.Facts.State
import Psa.Tie.Facts.Alloc
