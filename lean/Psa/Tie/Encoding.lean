/-
  T1 for the encoding package: the regenerated translations of `processAdditionalInfo` and of the
  map-header ladder of `ToCBOR` (Psa/Generated/Funcs.lean, rewritten from /repo on every run) are
  proved equal to panic-free specifications, and so is the hand model.  A change to either Go function
  changes the generated definition and these proofs stop checking.
-/
import Psa.Generated.Funcs
import Psa.Proofs.EncRead
namespace Psa.Tie.Enc
open Psa Psa.Model.Enc

/-- the regenerated reader meets the specification for every `ai`, not only for the five bits its callers pass -/
theorem gen_pai_spec_all (ai : Nat) (data : Bytes) : Generated.processAdditionalInfo ai data = paiSpec ai data := by
  unfold Generated.processAdditionalInfo paiSpec
  by_cases h1 : ai < 24
  · simp [h1]
  by_cases h2 : ai < 28
  · have : ai = 24 ∨ ai = 25 ∨ ai = 26 ∨ ai = 27 := by omega
    rcases this with rfl | rfl | rfl | rfl
    · cases data <;> simp [sliceFrom, idx, Outcome.bind, eOther]
    · by_cases hl : data.length < 2
      · simp [hl, eOther]
      · simp [hl, sliceTo, sliceFrom, Outcome.bind, Nat.le_of_not_lt hl, List.take_take]
    · by_cases hl : data.length < 4
      · simp [hl, eOther]
      · simp [hl, sliceTo, sliceFrom, Outcome.bind, Nat.le_of_not_lt hl, List.take_take]
    · simp [eOther]
  · by_cases h3 : ai = 31
    · subst h3; simp
    · have : ¬ ai = 24 ∧ ¬ ai = 25 ∧ ¬ ai = 26 := by omega
      simp [h1, h2, h3, eOther, this]

theorem gen_pai_spec (ai : Nat) (data : Bytes) (h : ai < 32) :
    Generated.processAdditionalInfo ai data = paiSpec ai data :=
  gen_pai_spec_all ai data

theorem gen_pai_eq_model (ai : Nat) (data : Bytes) (h : ai < 32) :
    Generated.processAdditionalInfo ai data = processAdditionalInfo ai data := by
  rw [gen_pai_spec_all ai data, model_pai_spec ai data]

-- `0xa0 | n`: major type 5 in the top three bits of the initial byte, the count below 24 in the other five
theorem or160 : ∀ n, n < 24 → 160 ||| n = 160 + n := by decide

theorem gen_header_eq (n : Nat) (h : n < 2 ^ 32) : Generated.toCBORHeader n = Cbor.encHead 5 n := by
  unfold Generated.toCBORHeader Cbor.encHead
  by_cases h0 : n = 0
  · subst h0; simp
  by_cases h1 : n < 24
  · have : n % 256 = n := by omega
    simp [h0, h1, this, or160 n h1]
  by_cases h2 : n < 256
  · have h2' : n ≤ 255 := by omega
    have : n % 256 = n := by omega
    simp [h0, h1, h2, h2', this]
  by_cases h3 : n < 65536
  · have h2' : ¬ n ≤ 255 := by omega
    have h3' : n ≤ 65535 := by omega
    have : n % 65536 = n := by omega
    simp [h0, h1, h2, h2', h3, h3', this]
  · have h2' : ¬ n ≤ 255 := by omega
    have h3' : ¬ n ≤ 65535 := by omega
    have h4 : n < 4294967296 := by omega
    have : n % 4294967296 = n := by omega
    simp [h0, h1, h2, h2', h3, h3', h4, this]

theorem gen_header_eq_model (n : Nat) (h : n < 2 ^ 32) : Generated.toCBORHeader n = mapHeader n := by
  rw [gen_header_eq n h, Proofs.Enc.mapHeader_eq_encHead n h]

/-- the specification never panics: with `gen_pai_spec_all`, neither does the Go function
    (every index and slice expression in it is guarded by the length test before it) -/
theorem paiSpec_no_panic (ai : Nat) (data : Bytes) : ∀ s, paiSpec ai data ≠ .panic s := by
  intro s
  rcases paiSpec_cases ai data with h | ⟨n, k, h⟩ <;> rw [h] <;> simp

end Psa.Tie.Enc
