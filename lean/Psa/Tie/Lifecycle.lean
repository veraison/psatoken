/-
  Tie T1 for C14 (DESIGN §2.1 rule (a)): the definitions *regenerated from the
  Go source on this run* satisfy the specification directly.  The proof scripts
  do not mention the generated text, so any rewrite of the Go code that keeps
  the table keeps these proofs; an off-by-one in a bound breaks them.
-/
import Psa.Generated.Funcs
import Psa.Proofs.Lifecycle
namespace Psa.Tie
open Psa

theorem gen_lifeCycleToState_spec (v : Nat) :
    Generated.lifeCycleToState v = (Spec.state v).code := by
  rw [Spec.state_code]; unfold Generated.lifeCycleToState
  grind

theorem gen_stateIsValid_spec (s : Spec.LState) :
    Generated.stateIsValid s.code = decide (s ≠ .invalid) := by
  cases s <;> rfl

theorem gen_stateString_spec (s : Spec.LState) :
    Generated.stateString s.code = s.name := by
  cases s <;> rfl

theorem gen_stateString_other (o : Nat) (h : 7 ≤ o) : Generated.stateString o = "invalid" := by
  have : ∀ k, k < 7 → (o == k) = false := fun k hk => by simp; omega
  simp [Generated.stateString, this]

theorem gen_validateSecurityLifeCycle_spec (v : Nat) :
    Generated.validateSecurityLifeCycle v = if Spec.state v ≠ .invalid then .ok () else .err eWrongSyntax := by
  unfold Generated.validateSecurityLifeCycle
  rw [gen_lifeCycleToState_spec, gen_stateIsValid_spec]
  cases Spec.state v <;> rfl

theorem gen_validateSecurityLifeCycle_eq (v : Nat) (h : v < 65536) :
    Generated.validateSecurityLifeCycle v = Model.validateSecurityLifeCycle v := by
  rw [gen_validateSecurityLifeCycle_spec, Proofs.validateSecurityLifeCycle_eq]

end Psa.Tie
